import LalrpopModel.Lemmas.LRGenericFuel
import LalrpopModel.Lemmas.LRGenericErr
import LalrpopModel.Lemmas.LRGenericExtra
import LalrpopModel.Lemmas.LRGenericRecovery
import LalrpopModel.Lemmas.LRGenericSpans
import LalrpopModel.Lemmas.LRGenericAccount
/-!
Theorems about the M-LR driver (`Model/LR/Driver.lean`, mirroring `lalrpop-util/src/state_machine.rs`)
that hold for ARBITRARY tables `T` (no validator hypothesis): determinism and fuel monotonicity (A),
C17 "errors are returned verbatim and stop the parse" (B), the C04/C05 bookkeeping (C) and the C16
token accounting of error recovery (D). Proofs are in `Lemmas/LRGeneric*.lean`; the definitions
used in the statements (`toksOf`, `lastR`, `AllTok`, `Tree.covered`, `Tree.errs`, `Contig`,
`EnterCtx`, `MonoFrom`, `held`, `Seg`, `Inside`) are in `Lemmas/LRGenericIO.lean`, `LRGenericRecovery.lean`,
`LRGenericSpans.lean`, `LRGenericAccount.lean` and `LRGenericBasic.lean`.
-/
namespace LalrpopModel.LR.GenericThms
open LalrpopModel.LR LalrpopModel.LR.Generic

variable (T : Tables) (failAt : Option Nat) (startLoc : Int)

/-! ## A. determinism, fuel monotonicity -/

/-- once the machine is in `.done r`, more fuel changes nothing -/
theorem run_done_stable (af : Nat) {n : Nat} {c0 : Cfg} {ph0 : Phase} {c : Cfg} {r : Outcome}
    (h : run T af failAt startLoc n c0 ph0 = (c, .done r)) {m : Nat} (hm : n ≤ m) :
    run T af failAt startLoc m c0 ph0 = (c, .done r) :=
  Generic.run_done_stable T af failAt startLoc h hm

/-- an answer of `accepts` does not depend on how much fuel was left over -/
theorem accepts_fuel_mono {af : Nat} {st : List Nat} {i : Option Term} {b : Bool}
    (h : accepts T af st i = .ok b) {af' : Nat} (hle : af ≤ af') : accepts T af' st i = .ok b :=
  accepts_ok_mono T h hle

/-- a finished run whose result is not the fuel artefact is reproduced by any larger amounts of
    both fuels -/
theorem run_fuel_mono {af n : Nat} {c0 : Cfg} {ph0 : Phase} {c : Cfg} {r : Outcome}
    (h : run T af failAt startLoc n c0 ph0 = (c, .done r)) (hr : r ≠ .panic .outOfFuel)
    {af' n' : Nat} (hle : af ≤ af') (hn : n ≤ n') :
    run T af' failAt startLoc n' c0 ph0 = (c, .done r) :=
  run_done_mono T failAt startLoc h hr hle hn

/-- `Returns` is a partial function of `(T, failAt, startLoc, input)` up to the fuel artefact -/
theorem returns_unique {input : List Item} {c c' : Cfg} {r r' : Outcome}
    (h : Returns T failAt startLoc input c r) (h' : Returns T failAt startLoc input c' r')
    (hr : r ≠ .panic .outOfFuel) (hr' : r' ≠ .panic .outOfFuel) : r = r' ∧ c = c' :=
  returns_unique_aux T failAt startLoc h h' hr hr'

/-! ## B. C17: errors are returned verbatim and stop the parse -/

/-- Every configuration that has asked the stream for the item at position `pre.length` (an
    `Err(e)`) is final, with exactly that error, and nothing was read after it. This holds with
    `T.usesRecovery = true` too, and wherever the pull happened (`parse`'s `'shift` loop or the
    drop loop of `error_recovery`): recovery does not intercept. -/
theorem stream_error_stops (af : Nat) (pre : List Tok) (e : Nat) (post : List Item) (n : Nat) (c : Cfg) (ph : Phase)
    (h : run T af failAt startLoc n (init startLoc (pre.map Item.tok ++ Item.err e :: post)) .pull = (c, ph))
    (hp : pre.length < c.pulled) :
    ph = .done (.err (.user e)) ∧ c.pulled = pre.length + 1 ∧ c.input = post := by
  rcases serr_of_run h with h1 | ⟨h1, h2, h3⟩
  · exact absurd hp (by omega)
  · exact ⟨h3, h1, h2⟩

theorem stream_error_verbatim (pre : List Tok) (e : Nat) (post : List Item) (c : Cfg) (r : Outcome)
    (h : Returns T failAt startLoc (pre.map Item.tok ++ Item.err e :: post) c r)
    (hp : pre.length < c.pulled) :
    r = .err (.user e) ∧ c.pulled = pre.length + 1 ∧ c.input = post := by
  obtain ⟨n, af, h⟩ := h
  obtain ⟨h1, h2, h3⟩ := stream_error_stops T failAt startLoc af pre e post n c _ h hp
  injection h1 with h1
  exact ⟨h1, h2, h3⟩

/-- With `failAt = some n`: if the `n`-th action invocation of the run (production
    `c.trace.reverse[n]`, so in particular the run performed more than `n` invocations) is fallible,
    the parse returns exactly `failCode n`, no further action ran (`c.acts = n + 1`), and the final
    configuration is one step after a configuration `c1` with `c1.acts = n` from which the stream
    position is unchanged (no token pulled after the failing reduce). Holds for every phase the
    reduce may happen in (`parse`, `parse_eof`, the reduce loop of `error_recovery`). -/
theorem action_error_verbatim (n : Nat) (hf : failAt = some n) (input : List Item) (c : Cfg) (r : Outcome)
    (h : Returns T failAt startLoc input c r) (p : Nat) (hp : c.trace.reverse[n]? = some p)
    (hfal : T.fallible[p]? = some true) :
    r = .err (.user (failCode n)) ∧ c.acts = n + 1 ∧
    ∃ k af c1 ph1, run T af failAt startLoc k (init startLoc input) .pull = (c1, ph1) ∧
      step T af failAt startLoc c1 ph1 = (c, .done r) ∧
      c1.acts = n ∧ c.pulled = c1.pulled ∧ c.input = c1.input := by
  obtain ⟨m, af, h⟩ := h
  obtain ⟨hlen, himp⟩ := aerr_of_run hf h
  have hn : n < c.acts := by
    have := (List.getElem?_eq_some_iff.mp hp).1
    simp at this; omega
  obtain ⟨hacts, hph⟩ := himp hn p hp hfal
  injection hph with hph
  refine ⟨hph, hacts, ?_⟩
  obtain ⟨k, c1, ph1, hk, hrun, hnd, hstep⟩ := last_step T af failAt startLoc h rfl
  refine ⟨k, af, c1, ph1, hrun, hstep, ?_⟩
  have hs := step_spec_of hstep
  have hinv1 := aerr_of_run hf hrun
  rcases hs.acts_cases with ⟨h1, h2⟩ | ⟨p', h1, h2, h3, h4, -⟩
  · -- no action in the last step: then `c1` already was past the failing action, hence final
    exfalso
    obtain ⟨-, himp1⟩ := hinv1
    have := himp1 (by omega) p (by rw [← h2]; exact hp) hfal
    rw [this.2] at hnd
    simp [phDone] at hnd
  · exact ⟨by omega, h4, h3⟩

/-- from the first configuration whose phase is `.done r` on, the configuration is frozen -/
theorem nothing_after_done (af : Nat) {n : Nat} {c0 : Cfg} {ph0 : Phase} {c : Cfg} {r : Outcome}
    (h : run T af failAt startLoc n c0 ph0 = (c, .done r)) (m : Nat) (hm : n ≤ m) :
    (run T af failAt startLoc m c0 ph0).2 = .done r ∧
    (run T af failAt startLoc m c0 ph0).1.pulled = c.pulled ∧
    (run T af failAt startLoc m c0 ph0).1.acts = c.acts ∧
    (run T af failAt startLoc m c0 ph0).1.input = c.input := by
  rw [Generic.run_done_stable T af failAt startLoc h hm]
  exact ⟨rfl, rfl, rfl, rfl⟩

/-! ## C. C04 / C05 bookkeeping -/

/-- the stream position: `c.input` is what is left after `c.pulled` calls of `tokens.next()`; at
    most one call beyond the end (the one that saw `None`) is ever made -/
theorem pulled_le (af : Nat) (input : List Item) (n : Nat) (c : Cfg) (ph : Phase)
    (h : run T af failAt startLoc n (init startLoc input) .pull = (c, ph)) :
    c.pulled ≤ input.length + 1 ∧ c.input = input.drop c.pulled ∧
    (c.pulled + c.input.length = input.length ∨ (c.input = [] ∧ c.pulled = input.length + 1)) := by
  have hio := ioinv_of_run (T := T) (startLoc := startLoc) h
  refine ⟨hio.le, hio.inp, ?_⟩
  have := hio.le
  rw [hio.inp]
  by_cases hlt : c.pulled ≤ input.length
  · left; simp; omega
  · right; exact ⟨by simp; omega, by omega⟩

/-- `UnrecognizedToken` names a token the parser has pulled; without recovery it is the LAST item
    pulled (nothing beyond it was read), no error node exists, and all earlier tokens are on the
    symbol stack, in order, none skipped. -/
theorem unrecognized_token_is_last_pulled (input : List Item) (c : Cfg) (tok : Tok) (ex : List Term)
    (h : Returns T failAt startLoc input c (.err (.unrecognizedToken tok ex))) :
    (∃ i, i < c.pulled ∧ input[i]? = some (.tok tok)) ∧
    (T.usesRecovery = false →
      1 ≤ c.pulled ∧ input[c.pulled - 1]? = some (.tok tok) ∧
      (c.symbols.reverse.map (fun s => s.2.1.yield)).flatten ++ [tok] = toksOf (input.take c.pulled)) := by
  obtain ⟨n, af, h⟩ := h
  have hio := ioinv_of_run (T := T) (startLoc := startLoc) h
  obtain ⟨h1, h2⟩ := hio.fin _ rfl
  refine ⟨h1, fun hrec => ?_⟩
  obtain ⟨h3, h4⟩ := h2 hrec
  exact ⟨h3, h4, (plain_of_returns h (fun _ _ _ _ _ => hrec)).2 _ rfl (fun _ h => nomatch h)
    (fun _ h => nomatch h)⟩

/-- `UnrecognizedEof` (with or without recovery) is only reported after the whole stream was read
    (`input.length + 1` calls of `next()`), the stream held tokens only, and the location is the end
    of the last token, or `startLoc` for the empty stream. Without recovery every token is on the
    symbol stack. -/
theorem unrecognized_eof_location (input : List Item) (c : Cfg) (loc : Int) (ex : List Term)
    (h : Returns T failAt startLoc input c (.err (.unrecognizedEof loc ex))) :
    c.pulled = input.length + 1 ∧ AllTok input ∧
    loc = (match (toksOf input).getLast? with | some t => t.r | none => startLoc) ∧
    (T.usesRecovery = false →
      (c.symbols.reverse.map (fun s => s.2.1.yield)).flatten = toksOf input) := by
  obtain ⟨n, af, h⟩ := h
  have hio := ioinv_of_run (T := T) (startLoc := startLoc) h
  obtain ⟨h1, h2, h3⟩ := hio.fin _ rfl
  refine ⟨h1, h3, h2, fun hrec => ?_⟩
  have h6 := (plain_of_returns h (fun _ _ _ _ _ => hrec)).2 _ rfl (fun _ h => nomatch h)
    (fun _ h => nomatch h)
  rw [h1, List.take_of_length_le (Nat.le_succ _)] at h6
  exact (List.append_nil _).symm.trans h6

/-- every `expected` list is strictly increasing (hence duplicate-free) and within `__TERMINAL`;
    with recovery on, `nRepr = nTerm - 1`, so the error terminal `nTerm - 1` is never named -/
theorem expected_nodup_sorted (af : Nat) (states : List Nat) (ex : List Term)
    (h : expected T af states = .ok ex) :
    ex.Pairwise (fun (a b : Nat) => a < b) ∧ ex.Nodup ∧ (∀ x : Nat, x ∈ ex → x < T.nRepr) ∧
    (T.usesRecovery = true → T.nTerm - 1 ∉ ex) := by
  have h1 := expectedLoop_sorted h
  have h2 : ∀ x : Nat, x ∈ ex → x < T.nRepr := fun x hx =>
    Nat.zero_add T.nRepr ▸ ((expectedLoop_mem h x).mp hx).2.1
  refine ⟨h1, h1.imp (fun hab => Nat.ne_of_lt hab), h2, ?_⟩
  intro hrec hmem
  have := h2 _ hmem
  simp only [Tables.nRepr, hrec, ↓reduceIte] at this
  omega

/-- exactly the terminals of `__TERMINAL` for which `__accepts` answers yes are listed -/
theorem expected_mem_iff (af : Nat) (states : List Nat) (ex : List Term)
    (h : expected T af states = .ok ex) (x : Nat) :
    x ∈ ex ↔ (x < T.nRepr ∧ accepts T af states (some x) = .ok true) := by
  have := expectedLoop_mem h x
  simpa using this

/-- `ExtraToken` only arises from a start-production reduce entry in the ACTION table under a
    terminal lookahead: the run reaches `.act la idx` in a state whose action for `idx` is a reduce
    of a production with `isStart`; the reported token is that lookahead, the last item pulled. -/
theorem no_extra_token_unless_start_reduce_under_lookahead (input : List Item) (c : Cfg) (la : Tok)
    (h : Returns T failAt startLoc input c (.err (.extraToken la))) :
    ∃ k af c1 idx top rest a p,
      run T af failAt startLoc k (init startLoc input) .pull = (c1, .act la idx) ∧
      c1.states = top :: rest ∧ T.actionAt top idx = some a ∧ asShift a = none ∧
      asReduce a = some p ∧ T.isStart[p]? = some true ∧
      c.pulled = c1.pulled ∧ 1 ≤ c.pulled ∧ input[c.pulled - 1]? = some (.tok la) := by
  obtain ⟨n, af, h⟩ := h
  obtain ⟨k, c1, ph1, hk, hrun, hnd, hstep⟩ := last_step T af failAt startLoc h rfl
  have hio := ioinv_of_run (T := T) (startLoc := startLoc) hrun
  have hs := step_spec_of hstep
  obtain ⟨idx, top, rest, a, p, rfl, h1, h2, h3, h4, h5, h6, h7⟩ := hs.extra_cases hio hnd
  have hla := hio.la la rfl
  exact ⟨k, af, c1, idx, top, rest, a, p, hrun, h1, h2, h3, h4, h5, h6, by omega, by rw [h6]; exact hla.2⟩

/-! ## D. C16: error recovery accounts for tokens -/

/-- each error node of the result holds a contiguous run of stream tokens, in stream order -/
theorem dropped_in_order (input : List Item) (c : Cfg) (v : Tree)
    (h : Returns T failAt startLoc input c (.ok v)) (e : PErr) (dropped : List Tok)
    (he : (e, dropped) ∈ Tree.errs v) :
    ∃ pre post, input = pre ++ dropped.map Item.tok ++ post := by
  obtain ⟨n, af, h⟩ := h
  exact (cov_of_returns h).2 _ he

/-- the tokens the result accounts for (leaves, and `dropped_tokens` of error nodes, left to right)
    are a subsequence of the stream: nothing is duplicated, invented or reordered -/
theorem covered_subsequence (input : List Item) (c : Cfg) (v : Tree)
    (h : Returns T failAt startLoc input c (.ok v)) : (Tree.covered v).Sublist (toksOf input) := by
  obtain ⟨n, af, h⟩ := h
  exact (cov_of_returns h).1

/-- the leaves of the result are a subsequence of the stream tokens, in order -/
theorem leaves_subsequence (input : List Item) (c : Cfg) (v : Tree)
    (h : Returns T failAt startLoc input c (.ok v)) : v.yield.Sublist (toksOf input) :=
  (Tree.yield_sublist_covered v).trans (covered_subsequence T failAt startLoc input c v h)

/-- `error_recovery` proper (the `.recReduce` phase) is entered only from `parse` on an action
    that is neither shift nor reduce (the `0` entry), or from `parse_eof` on a non-reduce EOF action,
    and only when the tables use recovery -/
theorem recovery_entered_only_on_error_action (af : Nat) (c c' : Cfg) (ph : Phase)
    (la : Option (Tok × Term)) (e : PErr) (fe : Bool)
    (h : step T af failAt startLoc c ph = (c', .recReduce la e fe))
    (hph : ∀ la0 e0 fe0, ph ≠ .recReduce la0 e0 fe0) :
    T.usesRecovery = true ∧ EnterCtx T c ph la fe := by
  have hs := step_spec_of h
  generalize hph' : Phase.recReduce la e fe = ph' at hs
  cases hs with
  | pull _ nt hn => cases nt <;> cases hph'
  | redCont _ p ls _ hctx hr => exact (hph _ _ _ hph'.symm).elim
  | enterRec _ la' fe' ex hctx hex hrec =>
    injection hph' with h1 h2 h3
    subst h1 h3
    exact ⟨hrec, hctx⟩
  | push la' e' dropped sl fe' top hf _ _ hp =>
    cases hp with
    | panic tag => cases hph'
    | ok l r hl hr rs rest hrs a ha es hes =>
      rcases la' with _ | ⟨t, i⟩ <;> cases fe' <;> cases hph'
  | drop t i e dropped sl fe hf _ nt hn => cases nt <;> cases hph'
  | _ => cases hph'

/-- if the run never meets an error action while recovery is on (`EnterCtx`: a `0` ACTION entry
    under the lookahead, or a non-reduce EOF action), it never enters `error_recovery`, the result
    has no error node, and its leaves are exactly the stream tokens -/
theorem no_recovery_without_error_action (af : Nat) (input : List Item) (n : Nat) (c : Cfg) (v : Tree)
    (h : run T af failAt startLoc n (init startLoc input) .pull = (c, .done (.ok v)))
    (hno : ∀ k, k < n → ∀ la fe,
      EnterCtx T (run T af failAt startLoc k (init startLoc input) .pull).1
        (run T af failAt startLoc k (init startLoc input) .pull).2 la fe → T.usesRecovery = false) :
    Tree.errs v = [] ∧ Tree.covered v = v.yield := by
  have he := (plain_of_returns h hno).1 v rfl
  exact ⟨he, Tree.covered_eq_yield v he⟩

/-- in particular tables without recovery never produce an error node -/
theorem no_error_nodes_without_recovery (hrec : T.usesRecovery = false) (input : List Item) (c : Cfg) (v : Tree)
    (h : Returns T failAt startLoc input c (.ok v)) : Tree.errs v = [] := by
  obtain ⟨n, af, h⟩ := h
  exact (no_recovery_without_error_action T failAt startLoc af input n c v h (fun _ _ _ _ _ => hrec)).1

/-- Spans. If the token spans of the stream are monotone (`MonoFrom startLoc`: the first token
    starts at or after `startLoc`, `t.l ≤ t.r`, consecutive tokens do not overlap), then in every
    reachable non-final configuration the spans `(l, _, r)` on the symbol stack — error symbols
    included, whose span `error_recovery` picks by its start/end preference order — are well-formed,
    pairwise ordered and disjoint (an upper symbol starts at or after the end of every lower one),
    lie at or after `startLoc`, end before every token the phase still holds (dropped tokens and
    lookahead), and each error symbol's span covers the spans of its `dropped_tokens`.
    (Error nodes do not record their span inside the tree, so the statement is about the stack.) -/
theorem error_spans_ordered (af : Nat) (input : List Item) (hmono : MonoFrom startLoc (toksOf input))
    (n : Nat) (c : Cfg) (ph : Phase)
    (h : run T af failAt startLoc n (init startLoc input) .pull = (c, ph)) (hnd : phDone ph = false) :
    c.symbols.Pairwise (fun upper lower => lower.2.2 ≤ upper.1) ∧
    (∀ s ∈ c.symbols, startLoc ≤ s.1 ∧ s.1 ≤ s.2.2) ∧
    (∀ s ∈ c.symbols, ∀ t ∈ held ph, s.2.2 ≤ t.l) ∧
    (∀ s ∈ c.symbols, ∀ e d, s.2.1 = Tree.err e d → s.1 ≤ s.2.2 ∧ ∀ t ∈ d, s.1 ≤ t.l ∧ t.r ≤ s.2.2) := by
  have hsp := spaninv_of_run (T := T) hmono h
  have hord := hsp.ord hnd
  refine ⟨hord.pairwise, fun s hs => ⟨(hord.mem hs).1, (hord.mem hs).2.1⟩, fun s hs t ht => ?_, hsp.cover hnd⟩
  have h1 := (hord.mem hs).2.2
  have h2 := ((hsp.chain hnd).mem ht).1
  omega

/-- Token accounting on the stack (monotone token spans, arbitrary tables, recovery on or off). In
    every reachable non-final configuration the tokens pulled so far are, in stream order:
    consecutive segments, one per stack symbol from the bottom up (`Seg`), followed by the tokens
    the phase holds (dropped tokens, lookahead). Every token of a symbol's segment lies inside that
    symbol's span (`Inside`), and the tokens its tree covers are a subsequence of its segment. For an
    error symbol the segment is "tokens of the popped symbols ++ `dropped_tokens`": so every token
    that is neither a leaf nor a dropped token lies inside the span of the error symbol that
    swallowed it; by `error_spans_ordered` these spans are disjoint. -/
theorem token_accounting (af : Nat) (input : List Item) (hmono : MonoFrom startLoc (toksOf input))
    (n : Nat) (c : Cfg) (ph : Phase)
    (h : run T af failAt startLoc n (init startLoc input) .pull = (c, ph)) (hnd : phDone ph = false) :
    ∃ pre, toksOf (input.take c.pulled) = pre ++ held ph ∧ Seg c.symbols pre :=
  seginv_of_run (T := T) hmono h hnd

/-! ## Examples: the hypotheses of the theorems above are satisfiable -/

/-- `S = "a" =>? ..` without recovery. States: `0 -a-> 1`, `0 -S-> 2`; production 0 is `S → a`
    (fallible), production 1 the start production `__S → S`. -/
def T1 : Tables :=
  { nTerm := 1, action := [2, 0, 0], eofAction := [0, -1, -2], goto := [[2, 0, 0], [0, 0, 0]],
    prodLen := [1, 1], prodLhs := [0, 1], isStart := [false, true], fallible := [true, false],
    usesRecovery := false }

/-- the same automaton with a (never shiftable) error terminal: recovery on -/
def T2 : Tables :=
  { nTerm := 2, action := [2, 0, 0, 0, 0, 0], eofAction := [0, -1, -2], goto := [[2, 0, 0], [0, 0, 0]],
    prodLen := [1, 1], prodLhs := [0, 1], isStart := [false, true], fallible := [true, false],
    usesRecovery := true }

/-- broken tables: reduce entries (also of the start production) under the lookahead `a` -/
def T3 : Tables :=
  { nTerm := 1, action := [2, -1, -2], eofAction := [0, -1, -2], goto := [[2, 0, 0], [0, 0, 0]],
    prodLen := [1, 1], prodLhs := [0, 1], isStart := [false, true], fallible := [false, false],
    usesRecovery := false }

/-- `S = "a" | !` with recovery: `0 -a-> 1`, `0 -S-> 2`, `0 -!-> 3`; production 2 is `S → !` -/
def T4 : Tables :=
  { nTerm := 2, action := [2, 4, 0, 0, 0, 0, 0, 0], eofAction := [0, -1, -2, -3],
    goto := [[2, 0, 0, 0], [0, 0, 0, 0]],
    prodLen := [1, 1, 1], prodLhs := [0, 1, 0], isStart := [false, true, false],
    fallible := [false, false, false], usesRecovery := true }

def ta (id : Nat) (l r : Int) : Tok := { l := l, kind := some 0, id := id, r := r }
def a0 : Tok := ta 0 0 1
def a1 : Tok := ta 1 2 3

-- A: two finished runs with different fuels
example : ∃ c v, Returns T1 none 0 [.tok a0] c (.ok v) := ⟨_, _, 6, 5, rfl⟩
example : ∃ c v, Returns T1 none 0 [.tok a0] c (.ok v) := ⟨_, _, 9, 7, rfl⟩
example : accepts T4 3 [3, 0] none = .ok true := rfl

-- B: stream error pulled by `parse`, and (recovery on) from inside the drop loop of `error_recovery`
example : ∃ c r, Returns T1 none 0 ([a0].map Item.tok ++ Item.err 7 :: [.tok a1]) c r ∧ [a0].length < c.pulled :=
  ⟨_, _, ⟨12, 5, rfl⟩, by decide⟩
example : ∃ c r, Returns T2 none 0 ([a0, a1].map Item.tok ++ Item.err 7 :: [.tok a1]) c r ∧
    [a0, a1].length < c.pulled := ⟨_, _, ⟨12, 5, rfl⟩, by decide⟩
-- B: the 0-th action invocation is the fallible production 0 and is made to fail
example : ∃ c r, Returns T1 (some 0) 0 [.tok a0] c r ∧ c.trace.reverse[0]? = some 0 ∧
    T1.fallible[0]? = some true := ⟨_, _, ⟨12, 5, rfl⟩, rfl, rfl⟩

-- C
example : ∃ c ex, Returns T1 none 0 [.tok a0, .tok a1] c (.err (.unrecognizedToken a1 ex)) :=
  ⟨_, _, 12, 5, rfl⟩
example : ∃ c ex, Returns T1 none 7 [] c (.err (.unrecognizedEof 7 ex)) := ⟨_, _, 12, 5, rfl⟩
example : ∃ c ex, Returns T1 none 7 [.tok a0, .tok a1, .tok a1] c (.err (.unrecognizedToken a1 ex)) ∧
    c.pulled = 2 := ⟨_, _, ⟨12, 5, rfl⟩, rfl⟩
example : expected T1 5 [0] = .ok [0] := rfl
example : expected T4 5 [0] = .ok [0] := rfl
example : ∃ c, Returns T3 none 0 [.tok a0, .tok a1] c (.err (.extraToken a1)) := ⟨_, 12, 5, rfl⟩

-- D: `a a` with `S = "a" | !`: the first `a` is popped, the second dropped into the error node
example : ∃ c, Returns T4 none 0 [.tok a0, .tok a1] c
    (.ok (.node 2 0 3 (.cons (.err (.unrecognizedToken a1 []) [a1]) .nil))) := ⟨_, 20, 5, rfl⟩
-- D: `parse` meets the `0` action under the second `a` and enters `error_recovery`
example : ∃ c c' la e fe, run T4 5 none 0 3 (init 0 [.tok a0, .tok a1]) .pull = (c, .act a1 0) ∧
    step T4 5 none 0 c (.act a1 0) = (c', .recReduce la e fe) := ⟨_, _, _, _, _, rfl, rfl⟩
example : MonoFrom 0 (toksOf [.tok a0, .tok a1]) := by
  refine ⟨?_, ?_, ?_, ?_, trivial⟩ <;> decide
example : ∃ c l r e, run T4 5 none 0 7 (init 0 [.tok a0, .tok a1]) .pull = (c, .eof) ∧
    c.symbols = [(l, .err e [a1], r)] ∧ (l, r) = (0, 3) := ⟨_, _, _, _, rfl, rfl, rfl⟩
example : ∀ k, k < 6 → ∀ la fe,
    EnterCtx T1 (run T1 5 none 0 k (init 0 [.tok a0]) .pull).1
      (run T1 5 none 0 k (init 0 [.tok a0]) .pull).2 la fe → T1.usesRecovery = false :=
  fun _ _ _ _ _ => rfl

end LalrpopModel.LR.GenericThms
