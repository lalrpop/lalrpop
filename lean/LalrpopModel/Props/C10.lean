import LalrpopModel.Lemmas.ReLit
/-!
# C10 — literal and regex terminals match exactly their language

A quoted terminal `"s"` of a grammar travels through a chain of escaping layers before it is
matched at run time:

  `s` → `regex_syntax::escape` → regex parser → HIR → `Display` → `{:?}` quoting into the generated
  source → rustc's string-literal lexer → runtime regex engine.

The theorems below say that, on the model of `Model/ReLit.lean` + `Model/Re.lean`, every layer that
is lalrpop's or the Rust language's own is the identity on the *language*:

* `utf8_roundtrip` — `Hir::literal` stores UTF-8 bytes; strict decoding gives the scalar values back;
* `escape_parse` — the literal fragment of the regex parser reads `escape s` back as `s`;
* `literal_roundtrip` — hence the HIR of `"s"` denotes exactly the one string `s`
  (scalar-value reading, i.e. the runtime reading);
* `hex_roundtrip`, `debug_quote_roundtrip` — the `{:?}` rendering of a regex string, pasted between
  quotes into generated Rust source, is lexed by rustc back into exactly that string, whatever set
  of characters the standard library chooses to render as `\u{…}` (`uni` is universally quantified).

* `escape_injective`, `debug_quote_injective`, `literal_languages_disjoint` — no two different literals share an
  escaped text, a `{:?}` rendering, or a matched input.

NOT proved here (covered by differential testing against the real crates instead):

  `rerender_preserves_language_partial` — for a general regex `r`,
  the language of `parse_regex(r)` equals the language of `parse_regex(format!("{hir}"))`
  where `hir = parse_regex(r)`.
  regex-syntax's printer and parser are third-party code that is not modelled; there is no theorem.
-/
namespace LalrpopModel.ReLit
open LalrpopModel.Re

/-- UTF-8 encoding followed by strict decoding is the identity on lists of
Unicode scalar values. -/
theorem utf8_roundtrip (cs : List Nat) (h : ∀ c, c ∈ cs → isScalar c = true) :
    decodeUtf8 (encodeUtf8 cs) = some cs := by
  induction cs with
  | nil => exact decode_nil
  | cons c cs ih =>
    show decodeUtf8 (encodeChar c ++ encodeUtf8 cs) = _
    rw [decode_encodeChar c (h c List.mem_cons_self), ih fun x hx => h x (List.mem_cons_of_mem _ hx)]
    rfl

/-- The literal fragment of the regex parser reads `regex_syntax::escape s` back
as `s` — for every string, no side condition. -/
theorem escape_parse (s : List Nat) : parseLitChars (escape s) = some s := by
  induction s with
  | nil => simp [escape, parseLitChars]
  | cons c cs ih =>
    unfold escape
    cases hm : isMeta c with
    | true => simp only [if_true]; rw [parseLitChars_escaped c _ hm, ih]; rfl
    | false =>
      simp only [Bool.false_eq_true, if_false]
      rw [parseLitChars_plain c _ hm, ih]; rfl

/-- `parse_literal(s)` succeeds and its HIR denotes (scalar-value reading)
exactly the one string `s`. -/
theorem literal_roundtrip (s : List Nat) (h : ∀ c, c ∈ s → isScalar c = true) :
    ∃ hir, parseLiteral s = some hir ∧ ∀ w, denote .chars hir w ↔ w = s := by
  refine ⟨_, by rw [parseLiteral, parseLit, escape_parse]; rfl, fun w => ?_⟩
  cases s with
  | nil => exact Iff.rfl
  | cons c cs =>
    show decodeUtf8 (encodeUtf8 (c :: cs)) = some w ↔ w = c :: cs
    rw [utf8_roundtrip _ h, Option.some.injEq]
    exact eq_comm

/-- The digits `toHex` writes inside `\u{…}`, followed by the closing brace, are
read back by `readHex` (fuel 7: at most six digits and the brace) as the same number. -/
theorem hex_roundtrip (n : Nat) (hn : n < 0x110000) (rest : List Nat) :
    readHex 7 (toHex n ++ 125 :: rest) 0 = some (n, rest) :=
  readHex_toHex n (Nat.lt_trans hn (by decide)) rest

/-- Rust's `{:?}` quoting of a string of scalar values, followed by the
closing quote and anything at all, is lexed back as exactly that string, stopping at that closing
quote — for every choice `uni` of which characters are rendered as `\u{…}`. -/
theorem debug_quote_roundtrip (uni : Nat → Bool) (s rest : List Nat)
    (h : ∀ c, c ∈ s → isScalar c = true) (f : Nat) (hf : (escDebug uni s).length < f) :
    readStrLit f (escDebug uni s ++ 34 :: rest) = some (s, rest) := by
  induction s generalizing f with
  | nil =>
    cases f with
    | zero => exact absurd hf (Nat.not_lt_zero _)
    | succ f => rfl
  | cons c cs ih =>
    have hc := h c List.mem_cons_self
    have hpos := escDebugChar_length_pos uni c hc
    rw [escDebug_cons, List.length_append] at hf
    cases f with
    | zero => exact absurd hf (Nat.not_lt_zero _)
    | succ f =>
      rw [escDebug_cons, List.append_assoc, readStrLit_escDebugChar uni c hc,
        ih (fun x hx => h x (List.mem_cons_of_mem _ hx)) f (by omega)]
      rfl

/-! ### distinct terminals stay distinct through every layer -/

/-- Two different literals never get the same regex text. -/
theorem escape_injective (s t : List Nat) (h : escape s = escape t) : s = t := by
  have hs := escape_parse s
  rw [h, escape_parse t] at hs
  exact (Option.some.inj hs).symm

/-- The HIRs of two different quoted terminals have disjoint
languages: no input is matched by both (so the lexer never confuses `"s"` with `"t"`). -/
theorem literal_languages_disjoint (s t : List Nat) (hs : ∀ c, c ∈ s → isScalar c = true)
    (ht : ∀ c, c ∈ t → isScalar c = true) (hne : s ≠ t) (h₁ h₂ : Hir)
    (e₁ : parseLiteral s = some h₁) (e₂ : parseLiteral t = some h₂) (w : List Nat) :
    ¬ (denote .chars h₁ w ∧ denote .chars h₂ w) := by
  obtain ⟨a, ea, ha⟩ := literal_roundtrip s hs
  obtain ⟨b, eb, hb⟩ := literal_roundtrip t ht
  rw [e₁] at ea; rw [e₂] at eb
  cases Option.some.inj ea; cases Option.some.inj eb
  rintro ⟨d₁, d₂⟩
  exact hne (((ha w).mp d₁).symm.trans ((hb w).mp d₂))

/-- The `{:?}` text written into the generated source determines the
regex string: two different strings never share a rendering, whatever `uni` is. -/
theorem debug_quote_injective (uni : Nat → Bool) (s t : List Nat)
    (hs : ∀ c, c ∈ s → isScalar c = true) (ht : ∀ c, c ∈ t → isScalar c = true)
    (h : escDebug uni s = escDebug uni t) : s = t := by
  have a := debug_quote_roundtrip uni s [] hs ((escDebug uni s).length + 1) (by omega)
  have b := debug_quote_roundtrip uni t [] ht ((escDebug uni s).length + 1) (by rw [h]; omega)
  rw [h] at a b
  rw [b] at a
  exact ((Prod.mk.inj (Option.some.inj a)).1).symm

/-! ### the hypotheses are satisfiable -/

example : isScalar 0xE9 = true := by decide
example : isScalar 0x1F600 = true := by decide
example : ∀ c, c ∈ [97, 43, 0xE9] → isScalar c = true := by decide

/-- `"a+é"`: one meta character, one two-byte character -/
example : ∃ hir, parseLiteral [97, 43, 0xE9] = some hir ∧
    ∀ w, denote .chars hir w ↔ w = [97, 43, 0xE9] :=
  literal_roundtrip [97, 43, 0xE9] (by decide)

/-- the terminals `"a+"` and `"a"` do not both match the text `a+` (it is not in the language of
    the second) -/
example : ¬ (denote .chars (Option.get! (parseLiteral [97, 43])) [97, 43] ∧
    denote .chars (Option.get! (parseLiteral [97])) [97, 43]) := by
  intro h
  obtain ⟨a, ea, ha⟩ := literal_roundtrip [97] (by decide)
  have : Option.get! (parseLiteral [97]) = a := by rw [ea]; rfl
  rw [this] at h
  exact absurd ((ha _).mp h.2) (by decide)

/-- the `{:?}` text of `a"é` (with `é` rendered as `\u{e9}`) followed by `";` is read back -/
example : readStrLit 20 (escDebug (fun c => c = 0xE9) [97, 34, 0xE9] ++ 34 :: [59]) =
    some ([97, 34, 0xE9], [59]) :=
  debug_quote_roundtrip _ _ _ (by decide) 20 (by decide)

end LalrpopModel.ReLit
