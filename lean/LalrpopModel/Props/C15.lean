import LalrpopModel.Lemmas.Cfg
/-!
# C15 — conditional compilation equals deleting the inactive declarations

Theorems about the model `Model/Cfg.lean` of `cond_comp/mod.rs` (and of the related code in
`prevalidate`, `lower`, `api`), for ALL attributes / grammars / feature sets:

* `cfg_active_eq_rust_semantics` — on predicates of the Rust shape (`feature = "x"`, `not(p)` with
  exactly one argument, `all(..)`, `any(..)`), `test_feat_attr` computes Rust's `cfg` semantics;
* `multiple_cfg_conjoined` — several `cfg` attributes on one item are conjoined, other attributes
  are ignored;
* `remove_eq_delete` — `remove_disabled_decls` = deleting every nonterminal, alternative and extern
  conversion whose predicate is false, nothing else touched, order preserved;
* `filter_twice_idem` — the second filtering of the conversions (in `lower`) changes nothing;
* `env_feature_names`, `env_feature_roundtrip`, `env_feature_not_injective` — the names taken from
  `CARGO_FEATURE_*`, and the limit of that route.
-/
namespace LalrpopModel.Cfg
open LalrpopModel.PT

/-! ## Rust's `cfg` predicates, declaratively -/

/-- configuration predicates over features -/
inductive Pred where
  | feature (name : Str)
  | not (p : Pred)
  | all (ps : List Pred)
  | any (ps : List Pred)

mutual
/-- Rust reference semantics: `all()` of nothing is true, `any()` of nothing is false -/
def Pred.eval (on : Str → Bool) : Pred → Bool
  | .feature n => on n
  | .not p => !(p.eval on)
  | .all ps => Pred.evalAll on ps
  | .any ps => Pred.evalAny on ps
def Pred.evalAll (on : Str → Bool) : List Pred → Bool
  | [] => true
  | p :: ps => p.eval on && Pred.evalAll on ps
def Pred.evalAny (on : Str → Bool) : List Pred → Bool
  | [] => false
  | p :: ps => p.eval on || Pred.evalAny on ps
end

mutual
/-- how a predicate is written as an attribute argument -/
def Pred.toAttr : Pred → Attr
  | .feature n => .equal FEATURE n
  | .not p => .paren NOT [p.toAttr]
  | .all ps => .paren ALL (Pred.toAttrs ps)
  | .any ps => .paren ANY (Pred.toAttrs ps)
def Pred.toAttrs : List Pred → List Attr
  | [] => []
  | p :: ps => p.toAttr :: Pred.toAttrs ps
end

/-- which features are on: the set given, or none at all when features are unset -/
def isOn (fs : Features) (n : Str) : Bool :=
  match fs with
  | none => false
  | some features => features.contains n

mutual
theorem testFeat_toAttr (fs : Features) (p : Pred) : testFeat fs p.toAttr = p.eval (isOn fs) := by
  cases p with
  | feature n =>
    unfold Pred.toAttr Pred.eval testFeat isOn
    rw [if_pos rfl]
    cases fs <;> rfl
  | not q =>
    unfold Pred.toAttr Pred.eval testFeat
    rw [if_pos rfl, testNotFirst, testFeat_toAttr fs q]
  | all ps =>
    unfold Pred.toAttr Pred.eval testFeat
    rw [if_neg (show ALL ≠ NOT by decide), if_pos rfl]
    exact testAll_toAttrs fs ps
  | any ps =>
    unfold Pred.toAttr Pred.eval testFeat
    rw [if_neg (show ANY ≠ NOT by decide), if_neg (show ANY ≠ ALL by decide), if_pos rfl]
    exact testAny_toAttrs fs ps
theorem testAll_toAttrs (fs : Features) (ps : List Pred) :
    testAll fs (Pred.toAttrs ps) = Pred.evalAll (isOn fs) ps := by
  cases ps with
  | nil => rfl
  | cons p ps =>
    unfold Pred.toAttrs Pred.evalAll testAll
    rw [testFeat_toAttr fs p, testAll_toAttrs fs ps]
theorem testAny_toAttrs (fs : Features) (ps : List Pred) :
    testAny fs (Pred.toAttrs ps) = Pred.evalAny (isOn fs) ps := by
  cases ps with
  | nil => rfl
  | cons p ps =>
    unfold Pred.toAttrs Pred.evalAny testAny
    rw [testFeat_toAttr fs p, testAny_toAttrs fs ps]
end

/-! ## several `cfg` attributes -/

/-- **Several `cfg` attributes are conjoined**, wherever they stand among the attributes -/
theorem multiple_cfg_conjoined (fs : Features) (as bs : List Attr) :
    cfgActive fs (as ++ bs) = (cfgActive fs as && cfgActive fs bs) := by
  unfold cfgActive
  rw [List.filter_append, List.all_append]

/-- attributes that are not named `cfg` play no role -/
theorem non_cfg_ignored (fs : Features) (a : Attr) (as : List Attr) (h : a.id ≠ CFG) :
    cfgActive fs (a :: as) = cfgActive fs as := by
  unfold cfgActive
  simp [h]

/-- one `cfg` attribute in front: its own predicate and the rest -/
theorem cfg_cons (fs : Features) (a : Attr) (as : List Attr) (h : a.id = CFG) :
    cfgActive fs (a :: as) = (cfgAttrHolds fs a && cfgActive fs as) := by
  unfold cfgActive
  simp [h]

/-- no `cfg` attribute: active -/
theorem no_cfg_active (fs : Features) (as : List Attr) (h : ∀ a ∈ as, a.id ≠ CFG) :
    cfgActive fs as = true := by
  unfold cfgActive
  rw [List.filter_eq_nil_iff.mpr fun a ha => by simpa using h a ha]
  rfl

/-- **Predicates evaluate like Rust's.**  For every predicate `p` built from `feature = ".."`,
`not`, `all`, `any` and every feature set, an item carrying `#[cfg(p)]` (and any attributes that are
not named `cfg`) is active iff `p` holds in Rust's semantics; with features unset every feature
is off. -/
theorem cfg_active_eq_rust_semantics (fs : Features) (p : Pred) (others : List Attr)
    (ho : ∀ a ∈ others, a.id ≠ CFG) :
    cfgActive fs (others ++ [.paren CFG [p.toAttr]]) = p.eval (isOn fs) := by
  rw [multiple_cfg_conjoined, no_cfg_active fs others ho, Bool.true_and, cfg_cons fs _ [] rfl]
  show (testFeat fs p.toAttr && true) = p.eval (isOn fs)
  rw [Bool.and_true, testFeat_toAttr]

/-! ## removal = deletion -/

/-- an item of the grammar with its inactive parts deleted -/
def deleteInItem (fs : Features) : Item → Item
  | .nonterm nt => .nonterm { nt with alts := nt.alts.filter fun alt => cfgActive fs alt.attrs }
  | .externTok assoc (some (ty, convs)) =>
      .externTok assoc (some (ty, convs.filter fun c => cfgActive fs c.attrs))
  | it => it

/-- is the item a nonterminal whose own predicate is false? -/
def inactiveNonterm (fs : Features) : Item → Bool
  | .nonterm nt => !cfgActive fs nt.attrs
  | _ => false

/-- the grammar with the inactive declarations deleted, written with `filter`/`map` -/
def deleteInactive (fs : Features) (g : Grammar) : Grammar :=
  { g with items := (g.items.filter fun it => !inactiveNonterm fs it).map (deleteInItem fs) }

/-- **`remove_disabled_decls` is deletion**: the result is the grammar in which exactly the
nonterminals whose predicate is false are missing (with all their alternatives, whatever those
carry), the remaining nonterminals keep exactly their active alternatives in order, the `extern`
block keeps exactly its active conversions in order, and everything else — order of items, names,
attributes, other items, header — is unchanged. -/
theorem remove_eq_delete (fs : Features) (g : Grammar) : removeDisabled fs g = deleteInactive fs g := by
  unfold removeDisabled deleteInactive
  rw [retainMap_eq]
  have h1 : itemActive fs = fun it => !inactiveNonterm fs it := by
    funext it; cases it <;> simp [itemActive, inactiveNonterm]
  have h2 : itemUpdate fs = deleteInItem fs := by
    funext it
    cases it with
    | nonterm nt => simp [itemUpdate, deleteInItem, retainMap_eq]
    | externTok a e =>
      cases e with
      | none => rfl
      | some tc => obtain ⟨ty, convs⟩ := tc; simp [itemUpdate, deleteInItem, retainMap_eq]
    | other r => rfl
  rw [h1, h2]

/-- membership form: an alternative survives iff it was there and its predicate holds -/
theorem surviving_alternatives (fs : Features) (alts : List Alt) (alt : Alt) :
    alt ∈ retainMap (fun a => cfgActive fs a.attrs) id alts ↔ alt ∈ alts ∧ cfgActive fs alt.attrs = true := by
  rw [retainMap_eq]
  simp [List.mem_filter]

/-- and the survivors keep their relative order -/
theorem surviving_alternatives_sublist (fs : Features) (alts : List Alt) :
    (retainMap (fun a => cfgActive fs a.attrs) id alts).Sublist alts := by
  rw [retainMap_eq]
  simp

/-! ## the conversions are filtered twice (`cond_comp`, then `lower`) -/

/-- **Filtering the conversions again in `lower` changes nothing** (same session, same predicate) -/
theorem filter_twice_idem (fs : Features) (convs : List Conv) :
    lowerConversions fs (retainMap (fun c => cfgActive fs c.attrs) id convs)
      = retainMap (fun c => cfgActive fs c.attrs) id convs := by
  unfold lowerConversions
  rw [retainMap_eq]
  simp [List.filter_filter]

/-- and `lower` alone would already delete the inactive conversions -/
theorem lower_filter_eq_delete (fs : Features) (convs : List Conv) :
    lowerConversions fs convs = retainMap (fun c => cfgActive fs c.attrs) id convs := by
  unfold lowerConversions
  rw [retainMap_eq]
  simp

/-! ## feature names from `CARGO_FEATURE_*` -/

/-- **Names taken from the environment**: the variable `CARGO_FEATURE_<S>` switches on the feature
`<S>` with every `_` turned into `-` and ASCII letters lowered; variables without the prefix are
ignored. -/
theorem env_feature_names (s : Str) :
    envFeature (CARGO_FEATURE_ ++ s) = some ((s.map fun c => if c = '_' then '-' else c).map asciiLower) := by
  unfold envFeature
  rw [stripPrefix_append]
  rfl

/-- **The environment route never yields `_` or an upper-case ASCII letter**: a predicate
`feature = "x_y"` or `feature = "Foo"` cannot be switched on through `CARGO_FEATURE_*`. -/
theorem env_feature_chars (var f : Str) (h : envFeature var = some f) :
    ∀ c ∈ f, c.toNat ≠ 95 ∧ ¬ (65 ≤ c.toNat ∧ c.toNat ≤ 90) := by
  obtain ⟨s, -, rfl⟩ := Option.map_eq_some_iff.1 h
  intro c hc
  obtain ⟨d', hd', rfl⟩ := List.mem_map.1 hc
  obtain ⟨d, -, rfl⟩ := List.mem_map.1 hd'
  exact envChar_toNat d ▸ envNat_range d.toNat

theorem envFeature_cargoVar (f : Str) :
    envFeature (cargoVar f) = some ((f.map cargoChar).map envChar) := by
  unfold cargoVar
  rw [env_feature_names, List.map_map]
  rfl

/-- **Round trip**: a feature name without `_` and without upper-case ASCII letters (e.g. `serde`,
`x-y`, `v1.2`) set by Cargo comes back unchanged. -/
theorem env_feature_roundtrip (f : Str)
    (h : ∀ c ∈ f, c.toNat ≠ 95 ∧ ¬ (65 ≤ c.toNat ∧ c.toNat ≤ 90)) :
    envFeature (cargoVar f) = some f := by
  have key : ∀ c ∈ f, (envChar ∘ cargoChar) c = id c := by
    intro c hc
    -- rewritten, not left to unification, which would unfold `envChar` down to `Char.ofNat` first
    rw [Function.comp_apply, id_eq]
    exact envChar_cargoChar c (h c hc).1 (h c hc).2
  rw [envFeature_cargoVar, List.map_map, List.map_congr_left key, List.map_id]

/-- **The route is not injective on Cargo feature names**: `x_y` and `x-y` (both legal, distinct
Cargo features) get the same variable, and both come back as `x-y`; so with Cargo feature `x_y`
enabled, `#[cfg(feature = "x_y")]` is off in the grammar while Rust's `cfg(feature = "x_y")` is on. -/
theorem env_feature_not_injective :
    cargoVar ['x','_','y'] = cargoVar ['x','-','y'] ∧
    envFeature (cargoVar ['x','_','y']) = some ['x','-','y'] ∧
    envFeature (cargoVar ['x','_','y']) ≠ some ['x','_','y'] := by
  refine ⟨by decide, by decide, by decide⟩

/-! ## the hypotheses are satisfiable / concrete instances -/

example : cfgActive (some [['a']]) [.paren CFG [(Pred.all [.feature ['a'], .not (.feature ['b'])]).toAttr]] = true := by
  decide
example : cfgActive none [.paren CFG [(Pred.feature ['a']).toAttr]] = false := by decide
/-- lalrpop's validator accepts more than Rust: `not(a, b)` passes and means `not(a)` -/
example : validateCfgAttr (.paren CFG [.paren NOT [.equal FEATURE ['a'], .equal FEATURE ['b']]]) = .ok () := by
  rfl
/-- and less: `all()` is rejected although Rust gives it the value true -/
example : validateCfgAttr (.paren CFG [.paren ALL []]) = .error .allArity := by rfl

end LalrpopModel.Cfg
