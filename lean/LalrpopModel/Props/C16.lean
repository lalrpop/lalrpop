import LalrpopModel.Props.LRSoundThms
import LalrpopModel.Props.LRGenericThms
/-!
C16 — Error recovery yields a well-formed tree and accounts for every token.

The theorems deciding this property (audited by `checks/c16.py` with `#print axioms`):

* `drive_sound` with recovery on: the result is a WF derivation with error nodes read as the `!` terminal.
* `drive_yield_sublist` (Props/LRSoundThms, validated tables); `leaves_subsequence`, `covered_subsequence`,
  `dropped_in_order`, `token_accounting`, `error_spans_ordered`, `no_recovery_without_error_action`
  (Props/LRGenericThms, arbitrary tables).
-/
