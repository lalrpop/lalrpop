import LalrpopModel.Lemmas.LRSound
import LalrpopModel.Props.LRGenericThms
/-!
M-LR: soundness and panic-freedom of the model driver (`Model/LR/Driver.lean`, the model of
`lalrpop-util/src/state_machine.rs` + generated `__reduce`) for EVERY grammar `G`, tables `T` and
exported automaton `A` that pass the executable validator's soundness side
(`validateSound G T A = true`), for arbitrary `failAt`, `startLoc` and every token stream whose
token kinds are terminal indices (`InRange T input`: what `__token_to_integer` answers is `< nTerm`;
without it `__ACTION[state * nTerm + i]` reads another state's row).

Proofs are in `Lemmas/LRSound*.lean`: the invariant `Inv` (`Lemmas/LRSoundStep.lean`) is preserved
by every `step`, error recovery included, and each theorem below reads it at the end of a run.

Fuel: `Returns` quantifies over the fuel `af` of the pure `accepts` loop; `PanicTag.outOfFuel` is not
a Rust panic (it stands for "`accepts` has not finished yet") and is the only tag that remains.
Termination of `accepts`/of the reduce loops does NOT follow from the soundness-side checks (a table
that reduces `A → ε` and goes to the same state on `A` passes them); it is proved from the separate
per-table check `checkTerm` (`Props/LRTermThms.lean`), and the completeness side gives it on
sentences only.
-/
namespace LalrpopModel.LR

variable {G : Grammar} {T : Tables} {A : Automaton} {failAt : Option Nat} {startLoc : Int}
  {input : List Item} {c : Cfg}

/-- An accepted run returns a well-formed derivation tree of the start nonterminal (error nodes
    standing for the error terminal `nTerm - 1`, only possible with recovery on). -/
theorem drive_sound {v : Tree} {S : NT} (h : validateSound G T A = true) (hin : InRange T input)
    (hS : G.startSym = some S) (hr : Returns T failAt startLoc input c (.ok v)) :
    Tree.WF G (errT T) v ∧ v.root G (errT T) = some (Sym.n S) := by
  obtain ⟨hw, hroot, _⟩ := returns_inv (sound_of_validate h) hin hr
  exact ⟨hw, hroot S hS⟩

/-- Without error recovery the result contains no error node. -/
theorem drive_no_err_node {v : Tree} (h : validateSound G T A = true) (hin : InRange T input)
    (hrec : T.usesRecovery = false) (hr : Returns T failAt startLoc input c (.ok v)) :
    v.hasErr = false := by
  obtain ⟨hw, _⟩ := returns_inv (sound_of_validate h) hin hr
  exact Tree.wf_none_noErr v (errT_none hrec ▸ hw)

/-- Without error recovery, an accepted stream consists of tokens only, every one of a known
    kind, and the tree's yield is exactly the whole stream, in order (acceptance happens at end of
    input only). -/
theorem drive_yield {v : Tree} (h : validateSound G T A = true) (hin : InRange T input)
    (hrec : T.usesRecovery = false) (hr : Returns T failAt startLoc input c (.ok v)) :
    input = v.yield.map Item.tok ∧ ∀ a ∈ v.yield, ∃ k, a.kind = some k := by
  obtain ⟨hw, _, hemp, hex⟩ := returns_inv (sound_of_validate h) hin hr
  obtain ⟨h1, h2⟩ := hemp hrec
  have := hex hrec
  simp only [measure, h1, h2, stackYield, phaseToks, List.nil_append, List.append_nil] at this
  exact ⟨this.symm, Tree.wf_yield_kind v hw⟩

theorem itemToks_eq_toksOf : ∀ l : List Item, itemToks l = Generic.toksOf l
  | [] => rfl
  | .tok t :: r => congrArg (t :: ·) (itemToks_eq_toksOf r)
  | .err _ :: r => itemToks_eq_toksOf r

/-- In general (recovery on or off) the yield is a subsequence of the tokens of the stream. This
    holds of any tables (`GenericThms.leaves_subsequence`); the hypotheses are not used. -/
theorem drive_yield_sublist {v : Tree} (h : validateSound G T A = true) (hin : InRange T input)
    (hr : Returns T failAt startLoc input c (.ok v)) : v.yield.Sublist (itemToks input) :=
  itemToks_eq_toksOf input ▸ GenericThms.leaves_subsequence T failAt startLoc input c v hr

/-- No Rust panic site of the driver is reachable; the only `panic` outcome of the model is the
    fuel of its `accepts` loop running out. -/
theorem driver_no_panic {r : Outcome} (h : validateSound G T A = true) (hin : InRange T input)
    (hr : Returns T failAt startLoc input c r) : ∀ tag, r = .panic tag → tag = .outOfFuel := by
  rintro tag rfl
  exact returns_inv (sound_of_validate h) hin hr

theorem no_panic_of_ne_fuel {r : Outcome} (hs : validateSound G T A = true) (hin : InRange T input)
    (hret : Returns T failAt startLoc input c r) (hr : r ≠ .panic .outOfFuel) : ∀ tag, r ≠ .panic tag := by
  intro tag htag
  have := driver_no_panic hs hin hret tag htag
  subst this
  exact hr htag

/-- Without error recovery, acceptance implies that the kinds of the stream are a sentence
    derivable from the start nonterminal. -/
theorem ok_implies_derives {v : Tree} {S : NT} (h : validateSound G T A = true) (hin : InRange T input)
    (hrec : T.usesRecovery = false) (hS : G.startSym = some S)
    (hr : Returns T failAt startLoc input c (.ok v)) :
    ∃ w : List Term, input.map itemKind = w.map some ∧ Derives G S w := by
  obtain ⟨hw, hroot⟩ := drive_sound h hin hS hr
  obtain ⟨hy, hk⟩ := drive_yield h hin hrec hr
  rw [errT_none hrec] at hw hroot
  obtain ⟨w, hwk⟩ := exists_kinds (fun a : Tok => a.kind) v.yield hk
  refine ⟨w, ?_, v, hw, hroot, hwk⟩
  rw [hy, List.map_map, ← hwk]
  rfl

/-! ### the hypotheses are satisfiable

Grammar (terminals `a = 0`, `b = 1`; nonterminals `S = 0`, `E = 1`, `S' = 2`):
`0: S → a E b`, `1: E → ε`, `2: E → a E`, `3: S' → S` (start production); its LR(1) automaton
(7 states) and the tables `write_parse_table` would emit for it. -/

def exG : Grammar :=
  { prods := [⟨0, [.t 0, .n 1, .t 1]⟩, ⟨1, []⟩, ⟨1, [.t 0, .n 1]⟩, ⟨2, [.n 0]⟩],
    nTerm := 2, nNT := 3, startProd := 3 }

def exA : Automaton :=
  { states := [
      { cores := [(3, 0), (0, 0)], shifts := [(0, 1)], reduces := [], gotos := [(0, 2)] },
      { cores := [(0, 1), (1, 0), (2, 0)], shifts := [(0, 3)], reduces := [(1, [some 1])], gotos := [(1, 4)] },
      { cores := [(3, 1)], shifts := [], reduces := [(3, [none])], gotos := [] },
      { cores := [(2, 1), (1, 0), (2, 0)], shifts := [(0, 3)], reduces := [(1, [some 1])], gotos := [(1, 5)] },
      { cores := [(0, 2)], shifts := [(1, 6)], reduces := [], gotos := [] },
      { cores := [(2, 2)], shifts := [], reduces := [(2, [some 1])], gotos := [] },
      { cores := [(0, 3)], shifts := [], reduces := [(0, [none])], gotos := [] }] }

def exT : Tables :=
  { nTerm := 2,
    action := [2, 0,  4, -2,  0, 0,  4, -2,  0, 7,  0, -3,  0, 0],
    eofAction := [0, 0, -4, 0, 0, 0, -1],
    goto := [[2, 0, 0, 0, 0, 0, 0], [0, 4, 0, 5, 0, 0, 0], [0, 0, 0, 0, 0, 0, 0]],
    prodLen := [3, 0, 2, 1], prodLhs := [0, 1, 1, 2],
    isStart := [false, false, false, true], fallible := [false, false, false, false],
    usesRecovery := false }

/-- the tables are the encoding of the automaton -/
example : encodeAction 2 exA = exT.action ∧ encodeEof exA = exT.eofAction := by decide +kernel

example : validateSound exG exT exA = true := by decide +kernel

example : exG.startSym = some 0 := by decide

def exInput : List Item := [.tok ⟨0, some 0, 0, 1⟩, .tok ⟨1, some 0, 1, 2⟩, .tok ⟨2, some 1, 2, 3⟩]

example : InRange exT exInput := by
  intro t k hm hk
  simp only [exInput, List.mem_cons, Item.tok.injEq, List.not_mem_nil, or_false] at hm
  rcases hm with rfl | rfl | rfl <;> cases hk <;> decide

/-- the driver accepts `a a b` (so the conclusions above are not vacuous either) -/
example : ∃ c v, Returns exT none 0 exInput c (.ok v) := ⟨_, _, 30, 10, rfl⟩

/-- `InRange` is needed: a token whose kind is not a terminal index makes `__ACTION[..]` go out of
    bounds in the last state (here after `a b`), or read another state's row elsewhere. -/
example : ∃ c, Returns exT none 0
    [.tok ⟨0, some 0, 0, 1⟩, .tok ⟨1, some 1, 1, 2⟩, .tok ⟨2, some 2, 2, 3⟩] c (.panic .actionIndex) :=
  ⟨_, 30, 10, rfl⟩

end LalrpopModel.LR
