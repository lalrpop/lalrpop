import LalrpopModel.Lemmas.BuildInv
/-!
C21 — non-forced builds never leave a stale or foreign output.

All theorems are about `Model/Build.lean` (`needsRebuild`, `plan`, `build`, `buildDir`, `step`,
`run`), for every generator `p.gen`, every hash function `p.hash` that is injective (`HashInj`,
explicit hypothesis) and whose lines survive `read_line`+`trim` (`HeaderOk`), every version string,
every variant `v` of the code unless a flag is named, every number of grammars and every history
(`List Op`, induction over the list).

The invariant is `Inv Good v p st`: every existing output is *honest* — for whatever grammar text
its two header lines are accepted by `needs_rebuild`, the file is `Good` for that text.  It is
stated for all grammar texts (not just the current one) so that it survives reverting an edit.

Hand edits (`alterHeader`, `setOut`) range over everything that keeps the edited file honest
(`OpOk`); the only thing excluded is forging a (version, hash g) header over a file that is not
the output for `g` — the "body edited under an intact header" case the property excludes.
For the repaired code (`exactHeader`) that exclusion is literal: `honest_of_no_exact_header` shows
that any file that does not literally start with `version ⏎ hash g ⏎` for some `g` is honest.

The three deviations of the original code are kept as theorems about the corresponding flags
being off: `padded_header_kept`, `non_utf8_header_blocks_build`,
`non_utf8_grammar_keeps_old_output`; `fixed_build_eq_forced` and
`fixed_failed_build_leaves_nothing` are the unconditional statements for the repaired code.
-/

namespace LalrpopModel.Build

variable {p : Params} {v : Variant} {Good : Bytes → Bytes → Prop}

/-- side condition on hand edits of generated files -/
def OpOk (Good : Bytes → Bytes → Prop) (v : Variant) (p : Params) (st : St) : Op → Prop
  | .alterHeader i l1 l2 => ∀ f, st.fs (.rs i) = some f → Honest Good v p (l1 ++ l2 ++ rest2 f.data)
  | .setOut _ d => Honest Good v p d
  | _ => True

/-- every hand edit of the history satisfies the side condition in the state it is applied to -/
def HistOk (Good : Bytes → Bytes → Prop) (v : Variant) (p : Params) : St → List Op → Prop
  | _, [] => True
  | st, op :: ops => OpOk Good v p st op ∧ HistOk Good v p (step v p st op) ops

theorem inv_init (gr : Nat → Option Bytes) : Inv Good v p (St.init gr) := by
  intro i f hf; cases hf

theorem step_inv (hp : HeaderOk p) (hinj : HashInj p) (hgs : GoodSpec p Good) (hs : v.Sound)
    (st : St) (op : Op) (hinv : Inv Good v p st) (hok : OpOk Good v p st op) :
    Inv Good v p (step v p st op) := by
  cases op with
  | edit i g => exact hinv
  | touch i => exact hinv
  | build i => exact build_inv hp hinj hgs hs _ st i hinv
  | forcedBuild i => exact build_inv hp hinj hgs hs _ st i hinv
  | buildDir ids => exact buildDir_inv hp hinj hgs hs _ ids st hinv
  | forcedBuildDir ids => exact buildDir_inv hp hinj hgs hs _ ids st hinv
  | deleteOut i => exact inv_setFs hinv (x := none) rfl (fun _ h => nomatch h)
  | alterHeader i l1 l2 =>
    simp only [step]
    split
    · rename_i f0 hfi
      exact inv_setFs hinv rfl (fun _ h => by cases h; exact hok f0 hfi)
    · exact hinv
  | setOut i d => exact inv_setFs hinv rfl (fun _ h => by cases h; exact hok)

/-- **Invariant preservation over histories** (induction over the operation list): edits, reverts,
    touches, builds, forced builds, directory builds, deletions and honest hand edits, for any
    number of grammars, keep every output honest. -/
theorem inv_preserved_by_ops (hp : HeaderOk p) (hinj : HashInj p) (hgs : GoodSpec p Good)
    (hs : v.Sound) (ops : List Op) (st : St) (hinv : Inv Good v p st) (hok : HistOk Good v p st ops) :
    Inv Good v p (run v p st ops) := by
  induction ops generalizing st with
  | nil => exact hinv
  | cons op ops ih =>
    exact ih (step v p st op) (step_inv hp hinj hgs hs st op hinv hok.1) hok.2

/-- **A build establishes currency** (all outcomes of `process_file_into`).
    From an honest state, building grammar `i` with text `g` ends in exactly one of:
    * up to date: nothing changed (not even a stamp) and the existing output is `Good` for `g`;
    * built: the output is byte-for-byte `version ⏎ hash g ⏎ body` with a fresh stamp;
    * generation error `e`: there is no output for `i`;
    * the first two lines of the existing output are not UTF-8 and the code is not `utf8Tolerant`:
      io error, nothing changed;
    * the grammar is not UTF-8: io error; the output of `i` is removed iff the code is
      `removeFirst`, otherwise nothing changed. -/
theorem build_establishes_current (hs : v.Sound) (cfg : Cfg) (st : St) (i : Nat) (g : Bytes)
    (hinv : Inv Good v p st) (hg : st.gr i = some g) :
    (build v p cfg st i = (.upToDate, st) ∧ ∃ f, st.fs (.rs i) = some f ∧ Good g f.data) ∨
    ((build v p cfg st i).1 = .built ∧ ∃ body c, (p.gen g).result = .ok body ∧
        (build v p cfg st i).2.fs (.rs i) = some ⟨canon p g body, c⟩ ∧ st.clock ≤ c) ∨
    (∃ e, (build v p cfg st i).1 = .genErr e ∧ (p.gen g).result = .error e ∧
        (build v p cfg st i).2.fs (.rs i) = none) ∨
    (build v p cfg st i = (.ioErr .headerNotUtf8, st) ∧ v.utf8Tolerant = false ∧
        ∃ f, st.fs (.rs i) = some f ∧ headerUtf8 f.data = false) ∨
    ((build v p cfg st i).1 = .ioErr .grammarNotUtf8 ∧ validUtf8 g = false ∧
        (build v p cfg st i).2.fs (.rs i) = (if v.removeFirst then none else st.fs (.rs i))) := by
  have hres := build_res hs p cfg st i g hg
  generalize build v p cfg st i = r at hres ⊢
  cases hres with
  | headerErr f _ hfi hu ht => exact Or.inr (Or.inr (Or.inr (Or.inl ⟨rfl, ht, f, hfi, hu⟩)))
  | upToDate f _ hfi hacc => exact Or.inl ⟨rfl, f, hfi, hinv i f hfi g hacc⟩
  | grammarNotUtf8 _ hu => exact Or.inr (Or.inr (Or.inr (Or.inr ⟨rfl, hu, loadFail_rs v st i⟩)))
  | genErr e st' _ _ hgen hnone =>
    exact Or.inr (Or.inr (Or.inl ⟨e, rfl, hgen, hnone⟩))
  | built body c st' _ _ hgen hsome hc =>
    exact Or.inr (Or.inl ⟨rfl, body, c, hgen, hsome, hc⟩)

/-- what a forced build of a UTF-8 text `g` leaves for grammar `i`: the canonical file, or nothing -/
theorem forced_build_output (hs : v.Sound) (cfg : Cfg) (st : St) (i : Nat) (g : Bytes)
    (hg : st.gr i = some g) (hforce : cfg.force = true) (hu : validUtf8 g = true) :
    ((build v p cfg st i).2.fs (.rs i)).map (·.data) =
      match (p.gen g).result with
      | .ok body => some (canon p g body)
      | .error _ => none := by
  have hres := build_res hs p cfg st i g hg
  generalize build v p cfg st i = r at hres
  cases hres with
  | headerErr _ hf => rw [hforce] at hf; cases hf
  | upToDate _ hf => rw [hforce] at hf; cases hf
  | grammarNotUtf8 _ hu' => rw [hu] at hu'; cases hu'
  | genErr e st' _ _ hgen hnone => simp [hgen, hnone]
  | built body c st' _ _ hgen hsome => simp [hgen, hsome]

/-- **Left untouched when current**: an output that `needs_rebuild` accepts for the current
    grammar — in particular the complete output of an earlier build — is not rewritten: the whole
    state, stamps and clock included, is unchanged. -/
theorem untouched_when_accepted (v : Variant) (st : St) (i : Nat) (g : Bytes) (f : File)
    (hg : st.gr i = some g) (hf : st.fs (.rs i) = some f) (hacc : Accepts v p g f.data) :
    build v p { force := false } st i = (.upToDate, st) := by
  rw [build_eq, plan_upToDate hg rfl hf hacc]
  rfl

theorem untouched_when_current (hp : HeaderOk p) (v : Variant) (st : St) (i : Nat) (g body : Bytes)
    (c : Nat) (hg : st.gr i = some g) (hf : st.fs (.rs i) = some ⟨canon p g body, c⟩) :
    build v p { force := false } st i = (.upToDate, st) :=
  untouched_when_accepted v st i g _ hg hf ((accepts_canon_iff hp v g g body).mpr rfl)

/-- A non-forced build leaves the bytes of a forced build unless the unreadable header (`hh`) or
    the non-UTF-8 grammar (`hu`: given, or by `GenUtf8`, since `g` has an output) bites.  If it takes
    the rebuild branch it does what the forced build does (`plan_force`); an accepted output is, by
    the invariant, the output of `g`, which the forced build writes again. -/
theorem nonforced_eq_forced (hs : v.Sound) (st : St) (i : Nat) (g : Bytes)
    (hinv : Inv (Exact p) v p st) (hg : st.gr i = some g)
    (hh : v.utf8Tolerant = true ∨ ∀ f, st.fs (.rs i) = some f → headerUtf8 f.data = true)
    (hu : validUtf8 g = true ∨ GenUtf8 p) :
    ((build v p { force := false } st i).2.fs (.rs i)).map (·.data) =
      ((build v p { force := true } st i).2.fs (.rs i)).map (·.data) := by
  rcases need_cases v p { force := false } st i g with hn | ⟨_, f, hf, hacc | ⟨hbad, ht⟩⟩
  · rw [build_eq, plan_force hg hn]
    rfl
  · obtain ⟨body, hgen, hd⟩ := hinv i f hf g hacc
    have hv : validUtf8 g = true := hu.elim id fun h => h g body hgen
    rw [forced_build_output hs { force := true } st i g hg rfl hv, hgen,
      untouched_when_accepted v st i g f hg hf hacc, hf]
    exact congrArg some hd
  · rcases hh with hh | hh
    · rw [hh] at ht; cases ht
    · rw [hh f hf] at hbad; cases hbad

/-- **Byte identity with a forced build** (any variant, with the two UTF-8 side conditions).
    From a state in which every output is honest in the exact sense, if the grammar is UTF-8 and
    the existing output's header lines are UTF-8, the output after a non-forced build has exactly
    the bytes a forced build would write (both are absent when generation fails). -/
theorem build_eq_forced (hs : v.Sound) (st : St) (i : Nat) (g : Bytes)
    (hinv : Inv (Exact p) v p st) (hg : st.gr i = some g) (hu : validUtf8 g = true)
    (hh : ∀ f, st.fs (.rs i) = some f → headerUtf8 f.data = true) :
    ((build v p { force := false } st i).2.fs (.rs i)).map (·.data) =
      ((build v p { force := true } st i).2.fs (.rs i)).map (·.data) :=
  nonforced_eq_forced hs st i g hinv hg (Or.inr hh) (Or.inl hu)

/-- **A failed build leaves nothing** (any variant, generation errors): if generation fails for
    the (UTF-8) grammar, then after a build from an honest state (forced, or non-forced with
    readable header lines) there is no output file for that grammar and the outcome is that
    error. -/
theorem failed_build_leaves_nothing (hgs : GoodSpec p Good) (hs : v.Sound) (cfg : Cfg) (st : St)
    (i : Nat) (g : Bytes) (e : Nat) (hinv : Inv Good v p st) (hg : st.gr i = some g)
    (hu : validUtf8 g = true) (hgen : (p.gen g).result = .error e)
    (hh : cfg.force = true ∨ ∀ f, st.fs (.rs i) = some f → headerUtf8 f.data = true) :
    (build v p cfg st i).1 = .genErr e ∧ (build v p cfg st i).2.fs (.rs i) = none := by
  have hres := build_res hs p cfg st i g hg
  generalize build v p cfg st i = r at hres
  cases hres with
  | headerErr f hf hfi hbad _ =>
    rcases hh with hh | hh
    · rw [hh] at hf; cases hf
    · rw [hh f hfi] at hbad; cases hbad
  | upToDate f _ hfi hacc =>
    obtain ⟨body, hb⟩ := hgs.good_gen g _ (hinv i f hfi g hacc)
    rw [hgen] at hb; cases hb
  | grammarNotUtf8 _ hu' => rw [hu] at hu'; cases hu'
  | genErr e' st' _ _ hgen' hnone =>
    rw [hgen] at hgen'; cases hgen'; exact ⟨rfl, hnone⟩
  | built body c st' _ _ hgen' => rw [hgen] at hgen'; cases hgen'

/-- a build of grammar `i` does not touch the outputs of other grammars or any grammar file -/
theorem build_frame (hs : v.Sound) (cfg : Cfg) (st : St) (i j : Nat) (hj : j ≠ i) :
    (build v p cfg st i).2.fs (.rs j) = st.fs (.rs j) ∧ (build v p cfg st i).2.gr = st.gr :=
  ⟨(build_effect hs p cfg st i).frame j hj, (build_effect hs p cfg st i).gr⟩

/-- **Property over histories** (any variant, with the two UTF-8 side conditions).  Start with no
    outputs, run any history whose hand edits are honest, then build grammar `i` (non-forced): the
    output has exactly the bytes of a forced build of the current text. -/
theorem history_then_build_eq_forced (hp : HeaderOk p) (hinj : HashInj p) (hs : v.Sound)
    (gr : Nat → Option Bytes) (ops : List Op) (hok : HistOk (Exact p) v p (St.init gr) ops)
    (i : Nat) (g : Bytes) (hg : (run v p (St.init gr) ops).gr i = some g) (hu : validUtf8 g = true)
    (hh : ∀ f, (run v p (St.init gr) ops).fs (.rs i) = some f → headerUtf8 f.data = true) :
    ((build v p { force := false } (run v p (St.init gr) ops) i).2.fs (.rs i)).map (·.data) =
      ((build v p { force := true } (run v p (St.init gr) ops) i).2.fs (.rs i)).map (·.data) :=
  build_eq_forced hs _ i g
    (inv_preserved_by_ops hp hinj (exact_spec p) hs ops _ (inv_init gr) hok) hg hu hh

/-- `process_dir`: the list of per-file outcomes is a run of successes followed by at most one
    failure (it stops at the first error); `buildDir_inv` says every output stays honest. -/
theorem buildDir_outcomes (v : Variant) (cfg : Cfg) (ids : List Nat) (st : St) :
    let r := buildDir v p cfg st ids
    r.1.length ≤ ids.length ∧ (∀ o ∈ r.1.dropLast, o.isOk = true) ∧
      (r.1.length < ids.length → ∃ o, r.1.getLast? = some o ∧ o.isOk = false) := by
  induction ids generalizing st with
  | nil => exact ⟨Nat.le_refl _, fun _ h => (nomatch h), fun h => (nomatch h)⟩
  | cons i ids ih =>
    rw [buildDir_cons]
    cases hok : (build v p cfg st i).1.isOk with
    | true =>
      obtain ⟨h1, h2, h3⟩ := ih (build v p cfg st i).2
      rw [if_pos rfl]
      generalize (buildDir v p cfg (build v p cfg st i).2 ids).1 = os at h1 h2 h3 ⊢
      cases os with
      | nil =>
        -- nothing after `i`: then `ids` is empty, since a shorter list would end in a failure
        refine ⟨Nat.succ_le_succ h1, fun _ ho => (nomatch ho), fun hlt => ?_⟩
        obtain ⟨_, ho, _⟩ := h3 (Nat.lt_of_succ_lt_succ hlt)
        cases ho
      | cons o' os =>
        exact ⟨Nat.succ_le_succ h1, List.forall_mem_cons.mpr ⟨hok, h2⟩,
          fun hlt => h3 (Nat.lt_of_succ_lt_succ hlt)⟩
    | false =>
      exact ⟨Nat.succ_le_succ (Nat.zero_le _), fun _ h => (nomatch h), fun _ => ⟨_, rfl, hok⟩⟩

/-! ### The repaired code: unconditional statements -/

/-- with exact header comparison, a file that does not literally start with the header lines of
    any grammar is honest: every alteration of the header other than a forgery is allowed -/
theorem honest_of_no_exact_header (he : v.exactHeader = true) (d : Bytes)
    (h : ∀ g, d ≠ p.version ++ [NL] ++ (p.hash g ++ [NL]) ++ rest2 d) : Honest Good v p d :=
  fun g hacc => absurd (accepts_exact he hacc) (h g)

/-- **Byte identity for the repaired code, no side conditions.**  With `removeFirst` and
    `utf8Tolerant`, from a state in which every output is honest in the exact sense: whatever the
    grammar text (UTF-8 or not) and whatever the bytes of the existing output, the output after a
    non-forced build of an existing grammar file has exactly the bytes a forced build would leave. -/
theorem fixed_build_eq_forced (hs : v.Sound) (hgu : GenUtf8 p) (hr : v.removeFirst = true)
    (ht : v.utf8Tolerant = true) (st : St) (i : Nat) (g : Bytes)
    (hinv : Inv (Exact p) v p st) (hg : st.gr i = some g) :
    ((build v p { force := false } st i).2.fs (.rs i)).map (·.data) =
      ((build v p { force := true } st i).2.fs (.rs i)).map (·.data) :=
  nonforced_eq_forced hs st i g hinv hg (Or.inl ht) (Or.inr hgu)

/-- **A failed build leaves nothing, repaired code.**  With `removeFirst` and `utf8Tolerant`,
    every build of an existing grammar file (forced or not, any text, any existing output) that
    does not return `Ok` leaves no output file for that grammar. -/
theorem fixed_failed_build_leaves_nothing (hs : v.Sound) (hr : v.removeFirst = true) (ht : v.utf8Tolerant = true)
    (cfg : Cfg) (st : St) (i : Nat) (g : Bytes) (hg : st.gr i = some g)
    (hfail : (build v p cfg st i).1.isOk = false) : (build v p cfg st i).2.fs (.rs i) = none := by
  have hres := build_res hs p cfg st i g hg
  generalize build v p cfg st i = r at hres hfail
  cases hres with
  | headerErr f _ _ _ ht' => rw [ht] at ht'; cases ht'
  | upToDate => cases hfail
  | grammarNotUtf8 => exact (loadFail_rs v st i).trans (if_pos hr)
  | genErr e st' _ _ _ hnone => exact hnone
  | built => cases hfail

/-- history version for the repaired code -/
theorem fixed_history_then_build_eq_forced (hp : HeaderOk p) (hinj : HashInj p) (hs : v.Sound) (hgu : GenUtf8 p)
    (hr : v.removeFirst = true) (ht : v.utf8Tolerant = true)
    (gr : Nat → Option Bytes) (ops : List Op) (hok : HistOk (Exact p) v p (St.init gr) ops)
    (i : Nat) (g : Bytes) (hg : (run v p (St.init gr) ops).gr i = some g) :
    ((build v p { force := false } (run v p (St.init gr) ops) i).2.fs (.rs i)).map (·.data) =
      ((build v p { force := true } (run v p (St.init gr) ops) i).2.fs (.rs i)).map (·.data) :=
  fixed_build_eq_forced hs hgu hr ht _ i g
    (inv_preserved_by_ops hp hinj (exact_spec p) hs ops _ (inv_init gr) hok) hg

/-! ### The original code: where the property fails (each reproduced on the real code before the repair) -/

/-- a file whose two header lines are variants `v'`, `h'` that still trim to the version and the
    hash of `g` is accepted for `g` by the trimming comparison -/
theorem accepts_header_variant (he : v.exactHeader = false) (g body v' h' : Bytes) (hv : NL ∉ v')
    (hh : NL ∉ h') (hvu : validUtf8 (v' ++ [NL]) = true) (hhu : validUtf8 (h' ++ [NL]) = true)
    (hvt : trim (v' ++ [NL]) = p.version) (hht : trim (h' ++ [NL]) = p.hash g) :
    Accepts v p g (v' ++ NL :: (h' ++ NL :: body)) ∧ rest2 (v' ++ NL :: (h' ++ NL :: body)) = body := by
  refine ⟨?_, rest2_lines hv hh body⟩
  rw [Accepts, needsRebuild_lines hv hh body hvu hhu, he, hvt, hht, bne_self_eq_false,
    bne_self_eq_false]
  rfl

/-- **White-space padded header is kept** (code without `exactHeader`).  If the version line still
    trims to the version string after a blank is appended (true of the real header; hypothesis
    `hpad`), the file `version␠ ⏎ hash g ⏎ body` is accepted for `g` although it differs from the
    forced output `version ⏎ hash g ⏎ body`. -/
theorem padded_header_kept (hp : HeaderOk p) (he : v.exactHeader = false) (g body : Bytes)
    (hpad : trim ((p.version ++ [0x20]) ++ [NL]) = p.version)
    (hpadu : validUtf8 ((p.version ++ [0x20]) ++ [NL]) = true) :
    Accepts v p g ((p.version ++ [0x20]) ++ NL :: (p.hash g ++ NL :: body)) ∧
    (p.version ++ [0x20]) ++ NL :: (p.hash g ++ NL :: body) ≠ canon p g body ∧
    rest2 ((p.version ++ [0x20]) ++ NL :: (p.hash g ++ NL :: body)) = body := by
  have hnl : NL ∉ p.version ++ [0x20] := fun h =>
    (List.mem_append.mp h).elim hp.v_nl (fun h => absurd (List.mem_singleton.mp h) (by decide))
  have h := accepts_header_variant (p := p) he g body (p.version ++ [0x20]) (p.hash g) hnl (hp.h_nl g)
    hpadu (hp.h_utf8 g) hpad (hp.h_trim g)
  refine ⟨h.1, fun e => ?_, h.2⟩
  -- the byte after the version string is a blank on one side, the newline on the other
  rw [canon_eq, List.append_assoc] at e
  exact absurd (List.cons.inj (List.append_cancel_left e)).1 (by decide)

/-- …and with `exactHeader` the same file is NOT accepted (so the next build regenerates it) -/
theorem padded_header_rejected (he : v.exactHeader = true) (g body : Bytes) :
    ¬ Accepts v p g ((p.version ++ [0x20]) ++ NL :: (p.hash g ++ NL :: body)) := by
  intro hacc
  have h := accepts_exact he hacc
  simp only [List.append_assoc] at h
  exact absurd (List.cons.inj (List.append_cancel_left h)).1 (by decide)

/-- **Unreadable header blocks the build** (code without `utf8Tolerant`).  If the first two lines
    of the existing output are not valid UTF-8, every non-forced build of that grammar fails with
    an io error and changes nothing, whatever the grammar is. -/
theorem non_utf8_header_blocks_build (ht : v.utf8Tolerant = false) (st : St) (i : Nat) (g : Bytes)
    (f : File) (hg : st.gr i = some g) (hf : st.fs (.rs i) = some f)
    (hbad : headerUtf8 f.data = false) :
    build v p { force := false } st i = (.ioErr .headerNotUtf8, st) := by
  rw [build_eq, plan_headerErr hg rfl hf hbad ht]
  rfl

/-- …and with `utf8Tolerant` such a file is simply rebuilt -/
theorem non_utf8_header_rebuilds (ht : v.utf8Tolerant = true) (g d : Bytes)
    (hbad : headerUtf8 d = false) : needsRebuild v p g (some d) = .ok true := by
  rw [needsRebuild_unreadable hbad, unreadable, if_pos ht]

/-- **A grammar that is not UTF-8 keeps the old output** (code without `removeFirst`).
    `FileText::from_path` fails before `remove_old_file`: the build fails and the output generated
    from the earlier text stays. -/
theorem non_utf8_grammar_keeps_old_output (hr : v.removeFirst = false) (cfg : Cfg) (st : St)
    (i : Nat) (g : Bytes) (hg : st.gr i = some g) (hbad : validUtf8 g = false)
    (hneed : cfg.force = true ∨ needsRebuild v p g ((st.fs (.rs i)).map (·.data)) = .ok true) :
    build v p cfg st i = (.ioErr .grammarNotUtf8, st) := by
  rw [build_eq, plan_notUtf8 hg hneed hbad, loadFailActs, hr]
  rfl

/-! ### The hypotheses are satisfiable -/

/-- toy parameters: version `//v`, hash line `//` followed by the text with every byte mapped into
    `a..p` twice (hex-like, injective), generator = identity on texts not starting with `!` -/
def toyHash (g : Bytes) : Bytes :=
  [0x2F, 0x2F] ++ g.flatMap fun b => [0x61 + b / 16, 0x61 + b % 16]

def toy : Params where
  version := [0x2F, 0x2F, 0x76]
  hash := toyHash
  gen := fun g => ⟨[], if g.head? = some 0x21 then .error 1 else .ok g⟩

/-- executable form of `HeaderOk` for one grammar text -/
def headerOkFor (p : Params) (g : Bytes) : Bool :=
  !p.version.contains NL && !(p.hash g).contains NL &&
  validUtf8 (p.version ++ [NL]) && validUtf8 (p.hash g ++ [NL]) &&
  trim (p.version ++ [NL]) == p.version && trim (p.hash g ++ [NL]) == p.hash g

example : headerOkFor toy [0x41, 0x0A, 0x42] = true := by decide +kernel
example : trim ((toy.version ++ [0x20]) ++ [NL]) = toy.version := by decide +kernel
example : validUtf8 ((toy.version ++ [0x20]) ++ [NL]) = true := by decide +kernel
example : headerUtf8 [0xFF, 0x0A, 0x41, 0x0A] = false := by decide +kernel
example : validUtf8 [0x41, 0xC3] = false := by decide +kernel

end LalrpopModel.Build
