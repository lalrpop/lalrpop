import LalrpopModel.Lemmas.MacroCache
import LalrpopModel.Lemmas.MacroValues
import LalrpopModel.Lemmas.MacroPrint
/-!
C13 — macros, repetitions and conditional alternatives expand by substitution.

* `expandOne key re defs t` is the definition that *substitution* prescribes for the symbol `t`
  (macro use: body with arguments substituted and conditions evaluated; group; repetition;
  lookaround). `rewriteNt` replaces the uses inside it by nonterminals named by their keys.
* lalrpop never compares symbols, only keys (`canonical_form()`): a symbol whose key is already in
  `expansion_set` is not expanded again.  `cached_expand_eq_subst`: this is the same as expansion
  by substitution provided the key is injective on the symbols met; `canonical_form_injective`
  says when the printed form is; the `…collision…` theorems show that the hypotheses are needed.
-/
set_option linter.unusedSectionVars false

namespace LalrpopModel.Macro

variable (key : KeyFn) (re : String → String → Option Bool)

/-- the documented meaning of a condition whose left-hand side is bound to the literal `l` -/
def condHolds (c : Cond) (l : String) : Option Bool :=
  match c.op with
  | .eq => some (l = c.rhs)
  | .ne => some (l ≠ c.rhs)
  | .matches => re c.rhs l
  | .notMatches => (re c.rhs l).map (!·)

theorem evalCond_quoted (c : Cond) (l : String) :
    evalCond re c (.terminal (.quoted l)) =
      match condHolds re c l with
      | some b => .ok b
      | none => .error ("invalid regular expression `" ++ c.rhs ++ "`: ") := by
  unfold evalCond condHolds
  dsimp only
  cases c.op with
  | eq => rfl
  | ne => rfl
  | «matches» => rfl
  | notMatches => cases re c.rhs l <;> rfl

/-- `evaluate_cond`: `==`/`!=` compare the literal with the right-hand side, `~~`/`!~` ask the
    regex (an invalid regex is an error); a left-hand side that is not bound to a string literal
    is an error; no condition = true. -/
theorem cond_eval_spec (env : Env) (c : Cond) :
    evaluateCond re env none = .ok true ∧
    (∀ l, env.get c.lhs = some (.terminal (.quoted l)) →
      (∀ b, condHolds re c l = some b → evaluateCond re env (some c) = .ok b) ∧
      (condHolds re c l = none → ∃ m, evaluateCond re env (some c) = .error m)) ∧
    (∀ s, env.get c.lhs = some s → (∀ l, s ≠ .terminal (.quoted l)) →
      ∃ m, evaluateCond re env (some c) = .error m) := by
  refine ⟨rfl, fun l hl => ?_, fun s hs hnl => ?_⟩
  · have e : evaluateCond re env (some c) = evalCond re c (.terminal (.quoted l)) := by
      simp only [evaluateCond, hl]
    rw [e, evalCond_quoted]
    exact ⟨fun b hb => by rw [hb], fun hn => by rw [hn]; exact ⟨_, rfl⟩⟩
  · have e : evaluateCond re env (some c) = evalCond re c s := by simp only [evaluateCond, hs]
    rw [e]
    cases s with
    | terminal t =>
      cases t with
      | quoted l => exact absurd rfl (hnl l)
      | _ => exact ⟨_, rfl⟩
    | _ => exact ⟨_, rfl⟩

/-- the alternative a macro alternative turns into -/
def instAlt (env : Env) (a : Alt) : Option Alt :=
  (substList env a.expr).map fun e => { expr := e, cond := none, action := a.action, attrs := a.attrs }

/-- **An alternative is kept exactly when its condition holds**: if the expansion of the
    alternatives succeeds, every condition evaluated to a Boolean and the result is, in order, the
    substitution instances of the alternatives whose condition is true. -/
theorem expand_alts_spec (env : Env) (alts out : List Alt) (h : expandAlts re env alts = .ok out) :
    (∀ a ∈ alts, ∃ b, evaluateCond re env a.cond = .ok b) ∧
    out.map some = (alts.filter fun a =>
      match evaluateCond re env a.cond with | .ok true => true | _ => false).map (instAlt env) := by
  induction alts generalizing out with
  | nil =>
    cases h
    exact ⟨List.forall_mem_nil _, rfl⟩
  | cons a rest ih =>
    simp only [expandAlts] at h
    cases hc : evaluateCond re env a.cond with
    | error m => simp only [hc, reduceCtorEq] at h
    | panic w => simp only [hc, reduceCtorEq] at h
    | ok b =>
      cases b with
      | false =>
        simp only [hc] at h
        obtain ⟨h1, h2⟩ := ih out h
        exact ⟨List.forall_mem_cons.mpr ⟨⟨_, hc⟩, h1⟩, by simp [hc, h2]⟩
      | true =>
        cases hs : substList env a.expr <;> simp only [hc, hs, reduceCtorEq] at h
        rename_i e
        cases hr : expandAlts re env rest <;> simp only [hr, reduceCtorEq, Outcome.ok.injEq] at h
        rename_i rest'
        subst h
        obtain ⟨h1, h2⟩ := ih rest' hr
        exact ⟨List.forall_mem_cons.mpr ⟨⟨_, hc⟩, h1⟩, by simp [hc, h2, instAlt, hs]⟩

/-- the symbols the expander meets: candidates of the original items, and candidates of the
    definition (by substitution) of a symbol already met -/
inductive Encountered (defs : List NtData) (rest : List Item) : Sym → Prop where
  | orig {r c t} : rewriteItems key rest = some (r, c) → t ∈ c → Encountered defs rest t
  | gen {t0 d d' c t} : Encountered defs rest t0 → expandOne key re defs t0 = .ok d →
      rewriteNt key d = some (d', c) → t ∈ c → Encountered defs rest t

/-- the macro definitions / the other items of a grammar, as `expand_macros` splits them -/
def macroDefs (items : List Item) : List NtData :=
  items.filterMap fun | .nt d => if d.args.isEmpty then none else some d | .other _ => none
def nonMacroItems (items : List Item) : List Item := items.filter (fun i => !isMacroDef i)

/-- **The cache keyed by the printed form implements expansion by substitution, provided the
    key is injective on the symbols met.**  If `expand_macros` succeeds and no two different
    encountered symbols share a key, then the result consists of the original items (uses
    rewritten) followed by generated nonterminals, and for *every* symbol `t` met — which was
    replaced by the nonterminal `key t` — the result contains the definition that substitution
    prescribes for `t` (`expandOne … t`, with its own uses rewritten). -/
theorem cached_expand_eq_subst (limit : Nat) (items out : List Item)
    (h : expandMacros key re limit items = .ok out)
    (hinj : ∀ t t', Encountered key re (macroDefs items) (nonMacroItems items) t →
      Encountered key re (macroDefs items) (nonMacroItems items) t' → key t = key t' → t = t') :
    ∃ rest' c0 generated, rewriteItems key (nonMacroItems items) = some (rest', c0) ∧
      out = rest' ++ generated ∧
      ∀ t, Encountered key re (macroDefs items) (nonMacroItems items) t →
        ∃ d d' c, expandOne key re (macroDefs items) t = .ok d ∧ rewriteNt key d = some (d', c) ∧
          Item.nt d' ∈ generated := by
  -- `macroDefs` and `nonMacroItems` are the two `let`s of `expandMacros`
  have h : expandLoop key re (macroDefs items) limit (limit + 2) 0 [] [] (nonMacroItems items) = .ok out := h
  obtain ⟨F', cF, G, hF, hout, hG⟩ := expandLoop_spec key re _ limit _ _ _ _ _ _ h
  have hGU := hG.reached (Encountered key re (macroDefs items) (nonMacroItems items))
    (fun t ht d d' c h1 h2 t' ht' => .gen ht h1 h2 ht') (fun t ht => .orig hF ht)
  refine ⟨F', cF, G.map (fun g => Item.nt g.defn'), hF, by simpa using hout, ?_⟩
  have key_lemma : ∀ t, Encountered key re (macroDefs items) (nonMacroItems items) t →
      ∃ g ∈ G, g.sym = t := by
    intro t ht
    induction ht with
    | @orig r c t hr htc =>
      cases hF.symm.trans hr
      rcases hG.cands_covered t (List.mem_append_left _ htc) with h | ⟨g, hg, he⟩
      · exact absurd h List.not_mem_nil
      · exact ⟨g, hg, hinj _ _ (hGU g hg) (.orig hF htc) he⟩
    | @gen t0 d d' c t ht0 h1 h2 htc ih =>
      obtain ⟨g0, hg0, rfl⟩ := ih
      obtain ⟨e1, e2⟩ := hG.gens_ok g0 hg0
      cases e1.symm.trans h1
      cases e2.symm.trans h2
      rcases hG.cands_covered t (List.mem_append_right _ (List.mem_flatMap.mpr ⟨g0, hg0, htc⟩))
        with h | ⟨g, hg, he⟩
      · exact absurd h List.not_mem_nil
      · exact ⟨g, hg, hinj _ _ (hGU g hg) (.gen ht0 e1 e2 htc) he⟩
  intro t ht
  obtain ⟨g, hg, rfl⟩ := key_lemma t ht
  obtain ⟨e1, e2⟩ := hG.gens_ok g hg
  exact ⟨g.defn, g.defn', g.cands, e1, e2, List.mem_map_of_mem hg⟩

/-- **Distinct instantiations never interfere**: what is generated for a use `t` is a function of
    `t` and of the macro definitions alone — two grammars with the same macro definitions that both
    meet `t` (and whose keys do not collide) contain the same definition for it, whatever else
    they instantiate. -/
theorem instances_independent (limit : Nat) (items₁ items₂ out₁ out₂ : List Item)
    (hdefs : macroDefs items₁ = macroDefs items₂)
    (h₁ : expandMacros key re limit items₁ = .ok out₁) (h₂ : expandMacros key re limit items₂ = .ok out₂)
    (hinj₁ : ∀ t t', Encountered key re (macroDefs items₁) (nonMacroItems items₁) t →
      Encountered key re (macroDefs items₁) (nonMacroItems items₁) t' → key t = key t' → t = t')
    (hinj₂ : ∀ t t', Encountered key re (macroDefs items₂) (nonMacroItems items₂) t →
      Encountered key re (macroDefs items₂) (nonMacroItems items₂) t' → key t = key t' → t = t')
    (t : Sym) (ht₁ : Encountered key re (macroDefs items₁) (nonMacroItems items₁) t)
    (ht₂ : Encountered key re (macroDefs items₂) (nonMacroItems items₂) t) :
    ∃ d', Item.nt d' ∈ out₁ ∧ Item.nt d' ∈ out₂ ∧
      ∃ d c, expandOne key re (macroDefs items₁) t = .ok d ∧ rewriteNt key d = some (d', c) := by
  obtain ⟨r1, c1, g1, _, rfl, hall1⟩ := cached_expand_eq_subst key re limit items₁ out₁ h₁ hinj₁
  obtain ⟨r2, c2, g2, _, rfl, hall2⟩ := cached_expand_eq_subst key re limit items₂ out₂ h₂ hinj₂
  obtain ⟨d, d', c, e1, e2, m1⟩ := hall1 t ht₁
  obtain ⟨d2, d2', c2', f1, f2, m2⟩ := hall2 t ht₂
  rw [← hdefs, e1] at f1
  cases f1
  rw [e2] at f2
  cases f2
  exact ⟨d', List.mem_append_right _ m1, List.mem_append_right _ m2, d, c, e1, e2⟩

section values

variable {Tk : Type} (sym0 : Sym) (base : List Tk → Val → Prop)

/-- the grammar fragment consisting of the generated `X+` -/
def plusTable : String → Option NtData := fun k =>
  if k = key (.repeat .plus sym0) then some (expandRepeat key .plus sym0) else none

/-- what `X+` and `X*` are to yield (the `X+` key is tested first, so its entry is `PlusSpec` even if
    the two keys collide) -/
def seqSpecTable : String → Option (List Tk → Val → Prop) := fun k =>
  if k = key (.repeat .plus sym0) then some (PlusSpec base)
  else if k = key (.repeat .star sym0) then some (StarSpec base) else none

theorem plus_alts_sound (spec : String → Option (List Tk → Val → Prop)) (hcore : core sym0 = sym0)
    (hspec : spec (key (.repeat .plus sym0)) = some (PlusSpec base))
    (hne : sym0 ≠ .nonterminal (key (.repeat .plus sym0))) :
    ∀ a ∈ (expandRepeat key .plus sym0).alts, AltSound spec sym0 base (PlusSpec base) a := by
  intro a ha
  simp only [expandRepeat, List.mem_cons, List.not_mem_nil, or_false] at ha
  rcases ha with rfl | rfl
  · refine altSound_user snippet_single fun args u v hg hv => ?_
    obtain ⟨x, rfl, hx⟩ := good_singleton hg
    cases hv
    exact ⟨[(u, x)], List.cons_ne_nil _ _, by simpa using goodSym_base hx hcore, by simp, rfl⟩
  · refine altSound_user snippet_push fun args u v hg hv => ?_
    obtain ⟨u1, w', x1, xs, rfl, rfl, hg1, hgr⟩ := hg
    obtain ⟨x2, rfl, hg2⟩ := good_singleton hgr
    obtain ⟨items, _, hall, rfl, rfl⟩ := goodSym_nt hg1 rfl hne hspec
    cases hv
    exact ⟨items ++ [(w', x2)], by simp,
      List.forall_mem_append.mpr ⟨hall, List.forall_mem_singleton.mpr (goodSym_base hg2 hcore)⟩,
      by simp, by simp⟩

theorem plus_build (lookup : String → Option NtData)
    (hl : lookup (key (.repeat .plus sym0)) = some (expandRepeat key .plus sym0))
    (w : List Tk) (v : Val) (h : PlusSpec base w v) :
    Der lookup sym0 base [.nonterminal (key (.repeat .plus sym0))] w [v] := by
  obtain ⟨items, hne', hall, rfl, rfl⟩ := h
  -- `X+` is left recursive: the derivation grows at the right end
  have build : ∀ (rest : List (List Tk × Val)) u vs, (∀ p ∈ rest, base p.1 p.2) →
      Der lookup sym0 base [.nonterminal (key (.repeat .plus sym0))] u [.list vs] →
      Der lookup sym0 base [.nonterminal (key (.repeat .plus sym0))]
        (u ++ rest.flatMap (·.1)) [.list (vs ++ rest.map (·.2))] := by
    intro rest
    induction rest with
    | nil => intro u vs _ h; simpa using h
    | cons p rest ih =>
      intro u vs hall h
      have step := der_single hl (.tail _ (.head _)) snippet_push
        (.named (der_append h (.named (der_item (hall p (.head _)))))) rfl
      simpa using ih (u ++ p.1) (vs ++ [p.2]) (fun q hq => hall q (.tail _ hq)) step
  cases items with
  | nil => exact absurd rfl hne'
  | cons p rest =>
    have first := der_single hl (.head _) snippet_single (der_item (hall p (.head _))) rfl
    simpa using build rest p.1 [p.2] (fun q hq => hall q (.tail _ hq)) first

/-- **`X+` yields the `Vec` of its items in input order**: the generated nonterminal derives
    exactly the nonempty sequences of items, with the list of their values. -/
theorem repeat_plus_values (hcore : core sym0 = sym0)
    (hne : sym0 ≠ .nonterminal (key (.repeat .plus sym0))) (w : List Tk) (v : Val) :
    Der (plusTable key sym0) sym0 base [.nonterminal (key (.repeat .plus sym0))] w [v] ↔
      PlusSpec base w v := by
  have hspec : seqSpecTable key sym0 base (key (.repeat .plus sym0)) = some (PlusSpec base) :=
    if_pos rfl
  constructor
  · exact der_nt_spec hcore
      (sound_cons hne hspec (plus_alts_sound key sym0 base _ hcore hspec hne) sound_empty) hspec hne
  · exact plus_build key sym0 base _ (if_pos rfl) w v

/-! `X*`: the generated `X*` refers to `X+`; its definition is taken as it stands in the grammar,
    i.e. after the use of `X+` inside it was rewritten (`rewriteNt`). -/

def starRewritten : NtData :=
  { expandRepeat key .star sym0 with
    alts := [userAlt [] "alloc::vec![]",
             userAlt [.name false "v" (.nonterminal (key (.repeat .plus sym0)))] "v"] }

def starTable (dstar : NtData) : String → Option NtData := fun k =>
  if k = key (.repeat .star sym0) then some dstar
  else if k = key (.repeat .plus sym0) then some (expandRepeat key .plus sym0) else none

/-- **`X*` yields the `Vec` of its items in input order** (possibly empty): for an item symbol
    that needs no expansion itself, the definition of `X*` after rewriting refers to `X+`, and
    together they derive exactly the sequences of items with the list of their values. -/
theorem repeat_star_values (hcore : core sym0 = sym0)
    (hsimple : rewriteSym key sym0 = some (sym0, []))
    (hne1 : sym0 ≠ .nonterminal (key (.repeat .plus sym0)))
    (hne2 : sym0 ≠ .nonterminal (key (.repeat .star sym0)))
    (hk : key (.repeat .star sym0) ≠ key (.repeat .plus sym0)) :
    rewriteNt key (expandRepeat key .star sym0) = some (starRewritten key sym0, [.repeat .plus sym0]) ∧
      ∀ (w : List Tk) (v : Val),
        Der (starTable key sym0 (starRewritten key sym0)) sym0 base
          [.nonterminal (key (.repeat .star sym0))] w [v] ↔ StarSpec base w v := by
  refine ⟨?_, fun w v => ⟨?_, ?_⟩⟩
  · simp [rewriteNt, expandRepeat, rewriteAlts, rewriteList, rewriteSym, hsimple, userAlt, starRewritten]
  · have hspecP : seqSpecTable key sym0 base (key (.repeat .plus sym0)) = some (PlusSpec base) :=
      if_pos rfl
    have hspecS : seqSpecTable key sym0 base (key (.repeat .star sym0)) = some (StarSpec base) :=
      (if_neg hk).trans (if_pos rfl)
    refine der_nt_spec hcore (sound_cons hne2 hspecS ?_ (sound_cons hne1 hspecP
      (plus_alts_sound key sym0 base _ hcore hspecP hne1) sound_empty)) hspecS hne2
    intro a ha
    simp only [starRewritten, List.mem_cons, List.not_mem_nil, or_false] at ha
    rcases ha with rfl | rfl
    · refine altSound_user snippet_nil fun args u v hg hv => ?_
      obtain ⟨rfl, rfl⟩ := hg
      cases hv
      exact ⟨[], List.forall_mem_nil _, rfl, rfl⟩
    · refine altSound_user snippet_id fun args u v hg hv => ?_
      obtain ⟨x, rfl, hx⟩ := good_singleton hg
      cases hv
      obtain ⟨items, _, hall, rfl, rfl⟩ := goodSym_nt hx rfl hne1 hspecP
      exact ⟨items, hall, rfl, rfl⟩
  · rintro ⟨items, hall, rfl, rfl⟩
    have hlS : starTable key sym0 (starRewritten key sym0) (key (.repeat .star sym0)) =
        some (starRewritten key sym0) := if_pos rfl
    cases items with
    | nil => exact der_single hlS (.head _) snippet_nil .nil rfl
    | cons p rest =>
      have hplus := plus_build key sym0 base (starTable key sym0 (starRewritten key sym0))
        ((if_neg hk.symm).trans (if_pos rfl)) _ _ ⟨p :: rest, List.cons_ne_nil _ _, hall, rfl, rfl⟩
      exact der_single hlS (.tail _ (.head _)) snippet_id (.named hplus) rfl

def optTable : String → Option NtData := fun k =>
  if k = key (.repeat .question sym0) then some (expandRepeat key .question sym0) else none

def optSpecTable : String → Option (List Tk → Val → Prop) := fun k =>
  if k = key (.repeat .question sym0) then some (OptSpec base) else none

/-- **`X?` yields an `Option`**: the generated nonterminal derives the empty word with `None`, or
    one item with `Some` of its value — nothing else. -/
theorem option_values (hcore : core sym0 = sym0)
    (hne : sym0 ≠ .nonterminal (key (.repeat .question sym0))) (w : List Tk) (v : Val) :
    Der (optTable key sym0) sym0 base [.nonterminal (key (.repeat .question sym0))] w [v] ↔
      OptSpec base w v := by
  have hl : optTable key sym0 (key (.repeat .question sym0)) =
      some (expandRepeat key .question sym0) := if_pos rfl
  constructor
  · have hspec : optSpecTable key sym0 base (key (.repeat .question sym0)) = some (OptSpec base) :=
      if_pos rfl
    refine der_nt_spec hcore (sound_cons hne hspec ?_ sound_empty) hspec hne
    intro a ha
    simp only [expandRepeat, List.mem_cons, List.not_mem_nil, or_false] at ha
    rcases ha with rfl | rfl
    · refine altSound_user snippet_some fun args u v hg hv => ?_
      obtain ⟨x, rfl, hx⟩ := good_singleton hg
      cases hv
      exact .inr ⟨x, goodSym_base hx hcore, rfl⟩
    · refine altSound_user snippet_none fun args u v hg hv => ?_
      obtain ⟨rfl, rfl⟩ := hg
      cases hv
      exact .inl ⟨rfl, rfl⟩
  · rintro (⟨rfl, rfl⟩ | ⟨x, hb, rfl⟩)
    · exact der_single hl (.tail _ (.head _)) snippet_none .nil rfl
    · exact der_single hl (.head _) snippet_some (der_item hb) rfl

end values

/-- `canonical_form()` is the concatenation of the spellings of the pieces `Display` writes -/
theorem print_eq (s : Sym) : s.print = String.join (s.toks.map Tok.spell) := rfl

/-- **The printed form is injective on parser-shaped symbols** — at the level of the pieces
    written by the `Display` impls (identifiers, literals, punctuation), for symbols of the shape
    the LALRPOP parser and `resolve` produce (`shaped`: bindings and `<…>` only at the top level of
    a group/argument, repetition operators only on unbound symbols, no tuple bindings), whose
    identifiers are classified consistently (`cls`: nonterminal / terminal / macro, as `resolve`
    enforces) and with **no nonterminal or terminal called `error`**. -/
theorem canonical_form_injective (cls : String → Nat) (s s' : Sym)
    (hs : shaped cls true s) (hs' : shaped cls true s') (h : s.toks = s'.toks) : s = s' := by
  -- a printer with a left inverse is injective
  have p := parseSym_toks cls s true hs (s.size + s'.size) (Nat.le_add_right ..) [] (follow_nil _)
  have p' := parseSym_toks cls s' true hs' (s.size + s'.size) (Nat.le_add_left ..) [] (follow_nil _)
  rw [h, p'] at p
  exact (congrArg Prod.fst (Option.some.inj p)).symm

/-- the hypotheses are satisfiable: `Comma<("a" <B>)*, C?>` -/
example : shaped (fun n => if n = "Comma" then 2 else 0) true
    (.macro "Comma" [.repeat .star (.expr [.terminal (.quoted "a"), .choose (.nonterminal "B")]),
      .repeat .question (.nonterminal "C")]) := by
  simp (decide := true) [shaped, shapedList]

/-- **Collision 1 (`error`)**: `SymbolKind::Error` (`!`) and a nonterminal named `error` write the
    same pieces, so `M<error>` and `M<!>` have the same canonical form although they differ — the
    hypothesis "no nonterminal called `error`" of `canonical_form_injective` cannot be dropped. -/
theorem canonical_form_collision_error :
    (Sym.macro "M" [.nonterminal "error"]).toks = (Sym.macro "M" [.error]).toks ∧
    (Sym.macro "M" [.nonterminal "error"]).print = (Sym.macro "M" [.error]).print ∧
    Sym.macro "M" [.nonterminal "error"] ≠ Sym.macro "M" [.error] := by
  refine ⟨rfl, rfl, ?_⟩
  intro h; cases h

/-- **Collision 2 (escaped names)**: a nonterminal may be named by any text between backticks; a
    name that spells a symbol has the canonical form of that symbol although the pieces differ —
    the token-level statement does not extend to the printed string unless identifiers look like
    identifiers. -/
theorem canonical_form_collision_escaped_name :
    (Sym.nonterminal "W<A>").print = (Sym.macro "W" [.nonterminal "A"]).print ∧
    (Sym.nonterminal "W<A>").toks ≠ (Sym.macro "W" [.nonterminal "A"]).toks ∧
    (Sym.nonterminal "A+").print = (Sym.repeat .plus (.nonterminal "A")).print ∧
    (Sym.nonterminal "\"a\"").print = (Sym.terminal (.quoted "a")).print ∧
    (Sym.macro "M" [.nonterminal "\"a\""]).print = (Sym.macro "M" [.terminal (.quoted "a")]).print := by
  refine ⟨by decide, by simp [Sym.toks, Sym.toksComma], by decide, by decide, by decide⟩

end LalrpopModel.Macro
