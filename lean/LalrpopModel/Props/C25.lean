import LalrpopModel.Lemmas.Hyg
import LalrpopModel.Gen.HygFacts
/-!
C25 — generated code is hygienic: renaming user identifiers changes nothing.

Theorems about `Model/Hyg.lean`: the prefix chosen by `parse_grammar` occurs nowhere in the grammar
text, hence every name of the form `{prefix}…` differs from every identifier the user wrote, and an
injective renaming of the user's identifiers extends to a bijection between the names of the two
generated programs.  The one derived name that is built WITHOUT the prefix — the precedence tiers
`{N}{level}` — is not protected: `level_name_collision`.
-/
namespace LalrpopModel.Hyg

/-- The prefix `parse_grammar` settles on is `__`, `___`, … and is not a substring of the grammar
    text. -/
theorem prefix_fresh (input : List Char) :
    contains input (choosePrefix input) = false ∧ ∃ k, choosePrefix input = List.replicate (k + 2) '_' := by
  refine ⟨growPrefix_fresh _ _ _ (Nat.lt_add_right 2 (Nat.lt_succ_self _)), ?_⟩
  obtain ⟨k, hk⟩ := growPrefix_shape (input.length + 1) input ['_', '_']
  exact ⟨k, hk⟩

/-- …hence not a substring of anything that occurs in the text, in particular of no user identifier. -/
theorem prefix_not_in_user_ident (input u : List Char) (hu : contains input u = true) :
    contains u (choosePrefix input) = false := by
  refine Bool.eq_false_iff.mpr fun h => ?_
  have := contains_trans input u _ hu h
  rw [(prefix_fresh input).1] at this
  cases this

/-- No identifier occurring in the grammar text equals a generated name `{prefix}{suffix}`, whatever
    the suffix (`0`, `action1`, `Symbol`, `lalrpop_util`, …). -/
theorem prefixed_names_disjoint (input u suffix : List Char) (hu : contains input u = true) :
    u ≠ choosePrefix input ++ suffix := by
  intro h
  have h1 := prefix_not_in_user_ident input u hu
  rw [h, contains_append_left] at h1
  cases h1

/-- the names of a generated program, abstractly: the user's identifiers and the names LALRPOP derives
    by putting the prefix in front of a suffix of its own -/
inductive AName
  | user (u : List Char)
  | derived (suffix : List Char)
  deriving DecidableEq, Repr

/-- the concrete identifier -/
def realize (prefix_ : List Char) : AName → List Char
  | .user u => u
  | .derived s => prefix_ ++ s

/-- a user name must occur in the grammar text; derived names are unconstrained -/
def occurs (input : List Char) : AName → Prop
  | .user u => contains input u = true
  | .derived _ => True

/-- distinct abstract names are distinct identifiers: no capture -/
theorem realize_injective (input : List Char) (a b : AName) (ha : occurs input a) (hb : occurs input b)
    (h : realize (choosePrefix input) a = realize (choosePrefix input) b) : a = b := by
  match a, b, ha, hb, h with
  | .user _, .user _, _, _, h => exact congrArg AName.user h
  | .user u, .derived s, ha, _, h => exact absurd h (prefixed_names_disjoint input u s ha)
  | .derived s, .user v, _, hb, h => exact absurd h.symm (prefixed_names_disjoint input v s hb)
  | .derived _, .derived _, _, _, h => exact congrArg AName.derived (List.append_cancel_left h)

/-- renaming the user part of a name -/
def mapName (ρ : List Char → List Char) : AName → AName
  | .user u => .user (ρ u)
  | .derived s => .derived s

theorem occurs_mapName {input₁ input₂ : List Char} {ρ : List Char → List Char}
    (hocc : ∀ u, contains input₁ u = true → contains input₂ (ρ u) = true) {a : AName} (ha : occurs input₁ a) :
    occurs input₂ (mapName ρ a) := by
  cases a with
  | user u => exact hocc u ha
  | derived s => trivial

theorem mapName_injective {input : List Char} {ρ : List Char → List Char}
    (hinj : ∀ u v, contains input u = true → contains input v = true → ρ u = ρ v → u = v) {a b : AName}
    (ha : occurs input a) (hb : occurs input b) (h : mapName ρ a = mapName ρ b) : a = b := by
  match a, b, ha, hb, h with
  | .user u, .user v, ha, hb, h => rw [hinj u v ha hb (AName.user.inj h)]
  | .user _, .derived _, _, _, h => cases h
  | .derived _, .user _, _, _, h => cases h
  | .derived _, .derived _, _, _, h => exact h

/-- Let `ρ` rename the user identifiers of grammar text `input₁` injectively into identifiers that
    occur in the renamed text `input₂` (the prefixes of the two may differ).  Then two names of the
    first generated program are the same identifier exactly when their images are the same
    identifier in the second: generating names commutes with renaming, so the two programs are
    α-equivalent as far as `{prefix}…` names are concerned. -/
theorem rename_commutes_prefixed (input₁ input₂ : List Char) (ρ : List Char → List Char)
    (hinj : ∀ u v, contains input₁ u = true → contains input₁ v = true → ρ u = ρ v → u = v)
    (hocc : ∀ u, contains input₁ u = true → contains input₂ (ρ u) = true)
    (a b : AName) (ha : occurs input₁ a) (hb : occurs input₁ b) :
    realize (choosePrefix input₁) a = realize (choosePrefix input₁) b ↔
      realize (choosePrefix input₂) (mapName ρ a) = realize (choosePrefix input₂) (mapName ρ b) := by
  constructor
  · intro h
    rw [realize_injective input₁ a b ha hb h]
  · intro h
    have hm := realize_injective input₂ _ _ (occurs_mapName hocc ha) (occurs_mapName hocc hb) h
    rw [mapName_injective hinj ha hb hm]

/-- the hypotheses are satisfiable: text `E:T;` renamed to `__0:E1;` (prefix `__` becomes `___`) -/
example : choosePrefix ['E', ':', 'T', ';'] = ['_', '_'] ∧
    choosePrefix ['_', '_', '0', ':', 'E', '1', ';'] = ['_', '_', '_'] ∧
    contains ['E', ':', 'T', ';'] ['E'] = true ∧ contains ['_', '_', '0', ':', 'E', '1', ';'] ['_', '_', '0'] = true := by
  decide +kernel

/-- anonymous bindings: `fresh_name(i)` is a prefixed name -/
theorem fresh_name_prefixed (input : List Char) (i : Nat) (u : List Char) (hu : contains input u = true) :
    u ≠ freshName (choosePrefix input) i :=
  prefixed_names_disjoint input u (natDigits i) hu

/-! ### the unprotected name -/

/-- tier names carry no prefix: below the top level they are just the user's name followed by the level -/
theorem tier_name_unprefixed (name : List Char) (lvl lvlMax : Nat) (h : lvl ≠ lvlMax) :
    tierName name lvl lvlMax = name ++ natDigits lvl := by
  simp [tierName, h]

/-- Nonterminal `E` with precedence levels 1 and 2 is expanded to rules `E1` and `E`.  With a
    further user nonterminal called `Helper` all rule names are distinct; after the injective,
    keyword-free renaming `Helper ↦ E1` two rules are called `E1`. -/
theorem level_name_collision :
    hasDup (expandNames [(['E'], [1, 2]), (['N', 'u', 'm'], []), (['H', 'e', 'l', 'p', 'e', 'r'], [])]) = false ∧
    hasDup (expandNames [(['E'], [1, 2]), (['N', 'u', 'm'], []), (['E', '1'], [])]) = true ∧
    expandNames [(['E'], [1, 2]), (['N', 'u', 'm'], []), (['E', '1'], [])] =
      [['E', '1'], ['E'], ['N', 'u', 'm'], ['E', '1']] := by
  decide +kernel

/-! ### what the source says (regenerated tables) -/

/-- the name schemes the model mirrors are the ones in the source: the `while input.contains(prefix)`
    loop starting from `__`, `fresh_name` = `{prefix}{i}`, tier names `{N}` / `{N}{level}` -/
theorem source_name_schemes :
    Gen.prefixLoopFound = true ∧ Gen.initialPrefix = ['_', '_'] ∧ Gen.freshNameFmt = ['{', '}', '{', '}'] ∧
    Gen.tierTopFmt = ['{', '}'] ∧ Gen.tierFmt = ['{', '}', '{', '}'] := by decide +kernel

/-- **the names the generated module binds without the prefix** (`use` / `extern crate` emissions of the
    code generators): `Token` (the built-in lexer's token type, imported twice) and the crate `alloc`.
    `prefixed_names_disjoint` does not protect them: a user binding, grammar parameter or type
    parameter called `Token` is accepted and the output does not compile (reproduced by the check). -/
theorem unprefixed_bound_names :
    (Gen.boundNames.filter (·.kind == "unprefixed")).map (·.name) =
      [['T', 'o', 'k', 'e', 'n'], ['T', 'o', 'k', 'e', 'n'], ['a', 'l', 'l', 'o', 'c']] := by decide +kernel

end LalrpopModel.Hyg
