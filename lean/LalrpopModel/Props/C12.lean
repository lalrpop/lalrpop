import LalrpopModel.Lemmas.PrecTiers
/-!
# C12 — precedence and associativity annotations yield the documented operator grammar

Theorems about the model `Model/Prec.lean` of `normalize/precedence/mod.rs`
(`expand_nonterm`, `replace_symbols`), for ALL nonterminals / symbol lists:

* `inherit_spec` — effective level and associativity of every alternative;
* `replace_every`, `replace_first`, `replace_last` — what `replace_symbols` does for the plans
  `Every` / `OneThen` in both directions, in terms of the occurrence numbering `substAtL`;
* `expand_eq_tiered_spec` — the expansion is the tiered grammar of the book (`tiered`);
* `expand_items_spec` — everything else in the grammar is untouched, order preserved.

The model is tied to the Rust code by the correspondence run of `checks/c12.py`.
-/
namespace LalrpopModel.Prec
open LalrpopModel.PT

/-- **Effective level/associativity of each alternative.**  If the fold of `expand_nonterm`
succeeds with `anns`, there is one annotated alternative per alternative, in order; alternative
`i` carries the level it declares itself (`ownLevel`), otherwise the level of alternative `i-1`
(the fold's initial `0` for `i = 0`); it carries the associativity it declares itself
(`ownAssoc`), otherwise `all` if it has its own `precedence` attribute, otherwise the
associativity of alternative `i-1` (`all` for `i = 0`); and it loses exactly its first
`precedence` and first `assoc` attribute.  The fold succeeds iff every attribute present is
readable (`Readable`). -/
theorem inherit_spec (alts : List Alt) (anns : List Ann) (h : annotate 0 .fullyAssoc alts = .ok anns) :
    anns.length = alts.length ∧
    (∀ alt ∈ alts, Readable alt) ∧
    ∀ (i : Nat) (alt : Alt) (a : Ann), alts[i]? = some alt → anns[i]? = some a →
      a.alt = stripAttrs alt ∧
      (i = 0 → a.lvl = (ownLevel alt).getD 0 ∧
               a.assoc = (ownAssoc alt).getD .fullyAssoc) ∧
      (∀ j p, i = j + 1 → anns[j]? = some p →
          a.lvl = (ownLevel alt).getD p.lvl ∧
          a.assoc = (ownAssoc alt).getD (if (precAttr alt).isSome then .fullyAssoc else p.assoc)) := by
  obtain ⟨hr, rfl⟩ := (annotate_ok_iff 0 .fullyAssoc alts anns).mp h
  refine ⟨inherit_length _ _ _, hr, fun i alt a h1 h2 => ⟨?_, ?_, ?_⟩⟩
  · have e := congrArg (·[i]?) (inherit_map_alt 0 .fullyAssoc alts)
    simp only [List.getElem?_map, h1, h2, Option.map_some] at e
    exact Option.some.inj e
  · intro hi
    subst hi
    cases alts with
    | nil => cases h1
    | cons x xs =>
      cases h1
      cases h2
      exact ⟨rfl, congrArg (ownAssoc alt).getD (ite_self _)⟩
  · intro j p hj hp
    subst hj
    cases h2.symm.trans (inherit_getElem?_succ _ _ alts j p alt hp h1)
    exact ⟨rfl, rfl⟩

/-- the fold succeeds exactly when every present `precedence`/`assoc` attribute has a first
argument of the form `key = "value"` whose value parses (as `u32`, as an associativity) -/
theorem annotate_total_iff (alts : List Alt) :
    (∃ anns, annotate 0 .fullyAssoc alts = .ok anns) ↔ ∀ alt ∈ alts, Readable alt := by
  constructor
  · rintro ⟨anns, h⟩; exact ((annotate_ok_iff _ _ _ _).mp h).1
  · intro h; exact ⟨_, annotate_readable _ _ _ h⟩

/-- **Every.** With the plan `Every(a)`, in either direction, every recursive occurrence
(pre-order through groups, repeats, bindings, macro arguments) becomes `a`; nothing else changes;
the plan is returned unchanged. -/
theorem replace_every (dir : Dir) (t : Str) (a : Sym) (syms : List Sym) (h : noAmbigL syms = true) :
    replaceSymbols dir t (.every a) syms = .ok (substAtL t (fun _ => a) 0 syms, .every a) := by
  rw [replaceSymbols_eq dir t _ (fun _ => a) syms h (fun _ _ => rfl), Subst.advance_every]

/-- **OneThen, forward (`left`).** The first recursive occurrence becomes `a`, all later ones `b`. -/
theorem replace_first (t : Str) (a b : Sym) (syms : List Sym) (h : noAmbigL syms = true) :
    replaceSymbols .forward t (.oneThen a b) syms =
      .ok (substAtL t (fun k => if k = 0 then a else b) 0 syms,
           if occL t syms = 0 then .oneThen a b else .every b) := by
  rw [replaceSymbols_eq .forward t _ _ syms h (fun j _ => (Subst.pick_oneThen a b j).symm),
    Subst.advance_oneThen]

/-- **OneThen, backward (`right`).** The last recursive occurrence becomes `a`, all earlier ones `b`. -/
theorem replace_last (t : Str) (a b : Sym) (syms : List Sym) (h : noAmbigL syms = true) :
    replaceSymbols .backward t (.oneThen a b) syms =
      .ok (substAtL t (fun k => if k + 1 = occL t syms then a else b) 0 syms,
           if occL t syms = 0 then .oneThen a b else .every b) := by
  rw [replaceSymbols_eq .backward t _ _ syms h
      (fun j hj => (pick_oneThen_backward a b _ j hj).symm),
    Subst.advance_oneThen]

/-! `substAtL` really is "occurrence `k` ↦ `f k`, nothing else": putting the target back is the
identity, and the number of positions it fills is `occL`. -/
mutual
theorem substAt_self (t : Str) (k : Nat) (s : Sym) : substAt t (fun _ => .nonterminal t) k s = s := by
  cases s with
  | nonterminal n =>
    simp only [substAt]
    split
    · rename_i h; rw [h]
    · rfl
  | «macro» name l => exact congrArg (Sym.macro name) (substAtL_self t k l)
  | expr l => exact congrArg Sym.expr (substAtL_self t k l)
  | «repeat» op s => exact congrArg (Sym.repeat op) (substAt_self t k s)
  | choose s => exact congrArg Sym.choose (substAt_self t k s)
  | name n s => exact congrArg (Sym.name n) (substAt_self t k s)
  | tuple tp s => exact congrArg (Sym.tuple tp) (substAt_self t k s)
  | ambiguous _ | terminal _ | error | lookahead | lookbehind => rfl
theorem substAtL_self (t : Str) (k : Nat) (l : List Sym) : substAtL t (fun _ => .nonterminal t) k l = l := by
  cases l with
  | nil => rfl
  | cons x xs => simp only [substAtL, substAt_self t k x, substAtL_self t _ xs]
end

/-- **Expansion = tiers of the book.**  For a nonterminal whose annotations are readable
(`annotate` succeeds with `anns`), that has at least one alternative, contains no unresolved
identifier, and uses only `all` on its lowest level, `expand_nonterm` returns `tiered nt anns`:
the distinct levels in ascending order, one nonterminal per level `l`, named `N` for the highest
level and `N{l}` otherwise, with the same visibility/attributes/parameters/type as `N`; it holds
the alternatives of effective level `l` in source order with recursive occurrences replaced per
associativity (`assocPlan`: `left` first→current rest→previous, `right` last→current
rest→previous, `none` all→previous, `all` all→current) followed — except on the lowest level —
by the alternative `N{previous level}`. -/
theorem expand_eq_tiered_spec (nt : Nonterm) (anns : List Ann)
    (hann : annotate 0 .fullyAssoc nt.alts = .ok anns) (hne : nt.alts ≠ [])
    (hamb : ∀ alt ∈ nt.alts, noAmbigL alt.expr = true)
    (hfirst : ∀ a ∈ anns, (∀ b ∈ anns, a.lvl ≤ b.lvl) → a.assoc = .fullyAssoc) :
    expandNonterm nt = .ok (tiered nt anns) := by
  obtain ⟨hr, rfl⟩ := (annotate_ok_iff 0 .fullyAssoc nt.alts anns).mp hann
  exact expandNonterm_eq_tiered nt hr hne hamb hfirst

/-- the tier of the highest level keeps the name of the nonterminal: references from elsewhere
denote the loosest level -/
theorem tierName_top (name : Str) (lvlMax : Nat) : tierName name lvlMax lvlMax = name := by
  simp [tierName]

/-- the levels of the tiers are the distinct effective levels, strictly ascending -/
theorem tier_levels (anns : List Ann) :
    (sortDedup (anns.map (·.lvl))).Pairwise (· < ·) ∧
    ∀ l, l ∈ sortDedup (anns.map (·.lvl)) ↔ ∃ a ∈ anns, a.lvl = l := by
  refine ⟨sortDedup_sorted _, ?_⟩
  intro l
  rw [mem_sortDedup]
  simp [List.mem_map]

/-- items the pass rewrites -/
def annotated : Item → Bool
  | .nonterm nt => hasPrecAttr nt
  | _ => false

/-- **Only annotated nonterminals are rewritten**, in place: if every annotated nonterminal
expands (`f` gives its tiers), the result is the item list with each annotated nonterminal
replaced by its tiers and every other item (including nonterminals without annotations on their
first alternative) unchanged, order preserved. -/
theorem expand_items_spec (items : List Item) (f : Nonterm → List Nonterm)
    (h : ∀ nt, Item.nonterm nt ∈ items → hasPrecAttr nt = true → expandNonterm nt = .ok (f nt)) :
    expandItems items = .ok (items.flatMap fun it =>
      match it with
      | .nonterm nt => if hasPrecAttr nt then (f nt).map .nonterm else [it]
      | _ => [it]) := by
  induction items with
  | nil => rfl
  | cons it items ih =>
    have ih' := ih (fun nt hnt hp => h nt (by simp [hnt]) hp)
    cases it with
    | nonterm nt =>
      rw [List.flatMap_cons, expandItems]
      by_cases hp : hasPrecAttr nt = true
      · simp only [if_pos hp, h nt List.mem_cons_self hp, ih']
      · simp only [if_neg hp, ih', List.singleton_append]
    | externTok _ _ | other _ => simp only [expandItems, ih', List.flatMap_cons, List.singleton_append]

/-! ## the hypotheses are satisfiable (documented example: levels 1 < 2, `left` on 2) -/

def exAtom : Alt :=
  { expr := [.terminal (.atom "a")], cond := none, action := none,
    attrs := [.paren PREC_ATTR [.equal LVL_ARG ['1']]] }
def exPlus : Alt :=
  { expr := [.nonterminal ['E'], .terminal (.atom "+"), .nonterminal ['E']], cond := none, action := none,
    attrs := [.paren PREC_ATTR [.equal LVL_ARG ['2']], .paren ASSOC_ATTR [.equal SIDE_ARG ['l','e','f','t']]] }
def exNt : Nonterm :=
  { name := ['E'], vis := .atom "priv", attrs := [], args := [], typeDecl := .atom "notype", alts := [exAtom, exPlus] }
def exAnns : List Ann :=
  [{ lvl := 1, assoc := .fullyAssoc, alt := { exAtom with attrs := [] } },
   { lvl := 2, assoc := .left, alt := { exPlus with attrs := [] } }]

example : annotate 0 .fullyAssoc exNt.alts = .ok exAnns := by rfl
example : exNt.alts ≠ [] := by decide
example : ∀ alt ∈ exNt.alts, noAmbigL alt.expr = true := by decide
example : ∀ a ∈ exAnns, (∀ b ∈ exAnns, a.lvl ≤ b.lvl) → a.assoc = .fullyAssoc := by decide

end LalrpopModel.Prec
