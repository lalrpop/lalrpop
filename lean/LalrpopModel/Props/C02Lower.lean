import LalrpopModel.Lemmas.Lower
import LalrpopModel.Lemmas.LowerSel
/-!
# C02, lowering part: default actions, `<>` substitution, argument patterns

Theorems about M-LOWER (`Model/Lower.lean`), the model of `normalize/lower/mod.rs`
(`LowerState::action_fn`, `patterns`, `fresh_name`) and `normalize/norm_util.rs`
(`analyze_expr`, `check_between_braces`). All statements are universal (any symbol list, any
action code, any prefix without `<`/`>`), proved by induction over the symbol list / the code.

`actionFnOn_eq` describes `action_fn` once the action string is fixed; `angle_subst_spec`,
`default_action_spec`, `action_fn_no_assert` and `action_fn_panic_iff` are read off it.

The model is tied to /repo on every run by `checks/lowerpart.py` (`stage_dump(tyinfer)` → model
→ `stage_dump(lower)`, `check_between_braces` through the prevalidation verdict, compiled value
leg).
-/
namespace LalrpopModel.Lower
variable {B : Type}

/-- `l` lists exactly the symbols of `syms` on which `f` is defined, with their positions, in
    source order -/
def IsSelection {α : Type} (f : Sym B → Option α) (syms : List (Sym B)) (l : List (Nat × α)) : Prop :=
  l.Pairwise (fun a b => a.1 < b.1) ∧
  ∀ j a, (j, a) ∈ l ↔ ∃ x, syms[j]? = some x ∧ f x = some a

theorem filterFrom_isSelection {α : Type} (f : Sym B → Option α) (syms : List (Sym B)) :
    IsSelection f syms (filterFrom f 0 syms) :=
  ⟨filterFrom_sorted f 0 syms, filterFrom_mem f syms⟩

/-- a selection is determined by the symbols: two lists with the property are equal -/
theorem IsSelection.unique {α : Type} {f : Sym B → Option α} {syms : List (Sym B)} {l1 l2 : List (Nat × α)}
    (h1 : IsSelection f syms l1) (h2 : IsSelection f syms l2) : l1 = l2 := by
  -- the same members without repetition: permutations of each other; sorted by position: equal
  have nodup : ∀ {l : List (Nat × α)}, l.Pairwise (fun a b => a.1 < b.1) → l.Nodup := fun h =>
    h.imp fun hab heq => Nat.ne_of_lt hab (congrArg Prod.fst heq)
  have hperm : l1.Perm l2 :=
    (List.perm_ext_iff_of_nodup (nodup h1.1) (nodup h2.1)).2 fun (j, a) => (h1.2 j a).trans (h2.2 j a).symm
  exact hperm.eq_of_pairwise (fun _ _ _ _ hab hba => absurd hab (Nat.lt_asymm hba)) h1.1 h2.1

/-- **analyze_expr_spec.** Which rule applies depends only on the kinds present (named symbols if
    any, else the `<>`-chosen ones, else all); the result lists exactly the symbols of that kind
    with their argument positions, in source order. -/
theorem analyze_expr_spec (syms : List (Sym B)) :
    match classify (syms.map Sym.kind) with
    | .named => ∃ l, analyzeExpr syms = .named l ∧ IsSelection Sym.binding? syms l
    | .chosen => ∃ l, analyzeExpr syms = .anon l ∧ IsSelection Sym.chosen? syms l
    | .all => ∃ l, analyzeExpr syms = .anon l ∧ IsSelection some syms l := by
  rcases analyzeExpr_cases syms with ⟨hc, h⟩ | ⟨hc, h⟩ | ⟨hc, h⟩
  all_goals rw [hc]; exact ⟨_, h, filterFrom_isSelection _ _⟩

/-- the classification is a function of the multiset of symbol kinds -/
theorem analyze_expr_class_perm (s1 s2 : List (Sym B))
    (h : (s1.map Sym.kind).Perm (s2.map Sym.kind)) :
    classify (s1.map Sym.kind) = classify (s2.map Sym.kind) := classify_perm h

/-- **patterns_spec.** For a selection in source order below `numArgs`, `patterns` returns one
    pattern per argument: the selected pattern at a selected position, `_` everywhere else, and
    its `debug_assert!` holds. -/
theorem patterns_spec (chosen : List (Nat × ArgPattern)) (numArgs : Nat)
    (h : SortedBelow chosen 0 numArgs) :
    ∃ r, patterns chosen numArgs = some r ∧ r.length = numArgs ∧
      (∀ j p, (j, p) ∈ chosen → r[j]? = some p) ∧
      (∀ j, j < numArgs → (∀ p, (j, p) ∉ chosen) → r[j]? = some blank) := by
  refine ⟨_, patterns_of_sorted chosen numArgs h, tabulateFrom_length _ _ _, ?_, ?_⟩
  · intro j p hm
    rw [tabulateFrom_getElem? _ _ _ _ (h.2 _ hm).2, Nat.zero_add, patAt_of_mem _ h.1 _ _ hm]
  · intro j hj hn
    rw [tabulateFrom_getElem? _ _ _ _ hj, Nat.zero_add, patAt_of_not_mem _ _ hn]

/-- the names `<>` stands for: the user's names, or `fresh_name(0..)` for anonymous selections -/
def selNames (v : Variant) (pfx : Str) : Symbols B → List Str
  | .named l => l.map fun x => v.nameOf x.2.1
  | .anon l => (List.range l.length).map (freshName pfx)

/-- the (argument index, pattern) pairs handed to `patterns` -/
def selPatterns (pfx : Str) : Symbols B → List (Nat × ArgPattern)
  | .named l => l.map fun x => (x.1, x.2.1)
  | .anon l => (l.map (·.1)).zip (((List.range l.length).map (freshName pfx)).map fun n => ArgPattern.name (Name.immut n))

theorem selPatterns_keys (pfx : Str) (sel : Symbols B) :
    (selPatterns pfx sel).map (·.1) =
      match sel with
      | .named l => l.map (·.1)
      | .anon l => l.map (·.1) := by
  cases sel with
  | named l => simp only [selPatterns, List.map_map]; rfl
  | anon l => exact List.map_fst_zip (by simp)

theorem selPatterns_sorted (pfx : Str) (expr : List (Sym B)) :
    SortedBelow (selPatterns pfx (analyzeExpr expr)) 0 expr.length := by
  have h := sortedBelow_of_keys (selPatterns pfx (analyzeExpr expr)) 0 expr.length
  rw [Nat.zero_add, selPatterns_keys] at h
  apply h
  rcases analyzeExpr_cases expr with ⟨_, hs⟩ | ⟨_, hs⟩ | ⟨_, hs⟩
  all_goals rw [hs]; exact filterFrom_keys_sublist _ 0 expr

theorem freshName_clean (pfx : Str) (h1 : '<' ∉ pfx) (h2 : '>' ∉ pfx) (i : Nat) : Clean (freshName pfx i) := by
  -- the digits of `i` are neither `<` nor `>`
  have hd : ∀ c, c.isDigit = false → c ∉ pfx → c ∉ freshName pfx i := fun c hc hp h =>
    (List.mem_append.1 h).elim hp fun h =>
      absurd (Nat.isDigit_of_mem_toDigits (by decide) (by decide) h) (by rw [hc]; decide)
  exact ⟨by simp [freshName, Nat.toDigits_ne_nil], hd _ (by decide) h1, hd _ (by decide) h2⟩

/-- the `UserActionFnDefn` `action_fn` builds once patterns and code are known -/
def mkDefn (fallible : Bool) (pats : List ArgPattern) (symbols : List (RSym B)) (code : Str) : UserDefn B :=
  { fallible := fallible, argPatterns := pats, argTypes := symbols, code := code }

/-- the patterns `action_fn` hands to the generated function: one per symbol of the production -/
def argPatternsOf (pfx : Str) (expr : List (Sym B)) (numArgs : Nat) : List ArgPattern :=
  tabulateFrom (patAt (selPatterns pfx (analyzeExpr expr))) 0 numArgs

theorem patterns_selPatterns (pfx : Str) (expr : List (Sym B)) (n : Nat) (hlen : n = expr.length) :
    patterns (selPatterns pfx (analyzeExpr expr)) n = some (argPatternsOf pfx expr n) :=
  patterns_of_sorted _ n (hlen ▸ selPatterns_sorted pfx expr)

/-- the code of a `Named` selection -/
def namedCode (v : Variant) (l : List (Nat × ArgPattern × Sym B)) (act : Str) : Str :=
  let sub := if checkBetweenBraces act = .inCurlyBrackets
    then joinComma (l.flatMap fun x => v.curlyNamesOf x.2.1)
    else joinComma (l.map fun x => v.nameOf x.2.1)
  joinWith sub (splitAngle act)

/-- outcome of an anonymous selection of `k` symbols on the action `act` -/
def anonOutcome (v : Variant) (pfx : Str) (fallible : Bool) (pats : List ArgPattern)
    (symbols : List (RSym B)) (k : Nat) (act : Str) : Outcome (UserDefn B) :=
  let names := (List.range k).map (freshName pfx)
  let pieces := splitAngle act
  if pieces.length ≤ 2 then .ok (mkDefn fallible pats symbols (joinWith (joinComma names) pieces))
  else if pieces.length = k + 1 then .ok (mkDefn fallible pats symbols (interleave pieces names))
  else if k = 0 ∧ v.emptyAnonUnwrap = true then .panic
  else .error (pieces.length - 1) k

/-- `anonOutcome` in the terms `action_fn` itself uses: the number of `<>` -/
theorem anonOutcome_count (v : Variant) (pfx : Str) (fallible : Bool) (pats : List ArgPattern)
    (symbols : List (RSym B)) (k : Nat) (act : Str) :
    anonOutcome v pfx fallible pats symbols k act =
      if countAngle act ≤ 1 then
        .ok (mkDefn fallible pats symbols
          (joinWith (joinComma ((List.range k).map (freshName pfx))) (splitAngle act)))
      else if countAngle act = k then
        .ok (mkDefn fallible pats symbols (interleave (splitAngle act) ((List.range k).map (freshName pfx))))
      else if k = 0 ∧ v.emptyAnonUnwrap = true then .panic
      else .error (countAngle act) k := by
  simp only [anonOutcome, ← countAngle_eq, Nat.reduceLeDiff, Nat.add_right_cancel_iff,
    Nat.add_sub_cancel]

/-- complete description of `action_fn` once the action string is fixed, for any selection on
    which `patterns` succeeds -/
theorem actionFnOn_eq (v : Variant) (pfx : Str) (fallible : Bool) (sel : Symbols B)
    (symbols : List (RSym B)) (act : Str) (pats : List ArgPattern)
    (hp : patterns (selPatterns pfx sel) symbols.length = some pats)
    (h1 : '<' ∉ pfx) (h2 : '>' ∉ pfx) :
    actionFnOn v pfx fallible sel symbols act =
      match (generalizing := false) sel with
      | .named l => .ok (mkDefn fallible pats symbols (namedCode v l act))
      | .anon l => anonOutcome v pfx fallible pats symbols l.length act := by
  cases sel with
  | named l =>
    simp only [selPatterns] at hp
    simp only [actionFnOn, hp, mkDefn, namedCode]
    cases hc : checkBetweenBraces act with
    | none =>
      simp only [reduceCtorEq, if_false]
      rw [splitAngle_of_count_zero act (countAngle_of_presence_none act hc)]
      rfl
    | normal => simp only [reduceCtorEq, if_false, replaceAngle_eq]
    | inCurlyBrackets => simp only [if_true, replaceAngle_eq]
  | anon l =>
    simp only [selPatterns] at hp
    have hclean : ∀ n ∈ (List.range l.length).map (freshName pfx), Clean n := by
      intro n hn
      obtain ⟨i, _, rfl⟩ := List.mem_map.1 hn
      exact freshName_clean pfx h1 h2 i
    simp only [actionFnOn, hp, anonOutcome_count, mkDefn, List.length_map, List.length_range,
      Nat.not_le.symm, ne_eq, ite_not, replaceAngle_eq, replaceEach_eq _ hclean]
    -- what is left differs in the last arm only: `match anon_symbols` there, `k = 0` here
    cases l <;> simp

/-- **angle_subst_spec.** Let `p₀ <> p₁ <> … <> pₖ` be the decomposition of the action code into
    its `<>`-free pieces (`splitAngle_spec` below: it exists, is unique and reconstructs the code).
    * named selection: every gap is filled with the comma-separated user names (inside `{ }`:
      the names listed for field-init shorthand); no error is possible;
    * anonymous selection of `n` symbols with fresh names `f₀ … fₙ₋₁`: if `k ≤ 1` every gap is filled
      with `f₀, …, fₙ₋₁`; if `k > 1` and `k = n` the i-th gap is filled with `fᵢ` (counted multiple
      `<>`); if `k > 1` and `k ≠ n` the error "Found k `<>`s and n anonymous sources" — except that
      the pinned tree panics when `n = 0` (`Variant.emptyAnonUnwrap`).
    Patterns, types and the fallible flag do not depend on the code. -/
theorem angle_subst_spec (v : Variant) (pfx : Str) (isUnit fallible : Bool) (expr : List (Sym B))
    (symbols : List (RSym B)) (code : Str) (hlen : symbols.length = expr.length)
    (h1 : '<' ∉ pfx) (h2 : '>' ∉ pfx) :
    actionFn v pfx isUnit fallible expr symbols (some code) =
      match analyzeExpr expr with
      | .named l => .ok (mkDefn fallible (argPatternsOf pfx expr symbols.length) symbols (namedCode v l code))
      | .anon l => anonOutcome v pfx fallible (argPatternsOf pfx expr symbols.length) symbols l.length code :=
  actionFnOn_eq v pfx fallible (analyzeExpr expr) symbols code _
    (patterns_selPatterns pfx expr symbols.length hlen) h1 h2

/-- the decomposition used by `angle_subst_spec`: joined by `<>` the pieces give the code back,
    no piece contains `<>`, and there is one gap per match counted by `matches("<>").count()` -/
theorem splitAngle_spec (code : Str) :
    joinWith ['<', '>'] (splitAngle code) = code ∧ (∀ p ∈ splitAngle code, countAngle p = 0) ∧
      (splitAngle code).length = countAngle code + 1 :=
  ⟨joinWith_splitAngle code, countAngle_piece code, (countAngle_eq code).symm⟩

/-- on the pinned tree the three arms of `match check_between_braces(..)` are one function: the
    gaps are filled with the joined `name()`s wherever the first `<>` stands -/
theorem named_subst_presence_irrelevant (v : Variant) (hv : v.tupleNamesFixed = false)
    (l : List (Nat × ArgPattern × Sym B)) (act : Str) :
    namedCode v l act = joinWith (joinComma (l.map fun x => x.2.1.nameStr)) (splitAngle act) := by
  -- both name lists are the `name()`s then (a `flatMap` of singletons is a `map`): the arms of
  -- the `if` in `namedCode` coincide
  simp only [namedCode, Variant.curlyNamesOf, Variant.nameOf, hv, Bool.false_eq_true, if_false,
    ← List.map_eq_flatMap, ite_self]

theorem defaultAction_eq (v : Variant) (pfx : Str) (isUnit : Bool) (sel : Symbols B) :
    defaultAction isUnit sel =
      if isUnit then ['(', ')']
      else if (selNames v pfx sel).length = 1 then ['<', '>'] else ['(', '<', '>', ')'] := by
  cases sel <;> simp only [defaultAction, selNames, List.length_map, List.length_range]

theorem actionFnOn_of_le_one (v : Variant) (pfx : Str) (fallible : Bool) (sel : Symbols B)
    (symbols : List (RSym B)) (act : Str) (ps : List Str) (pats : List ArgPattern)
    (hp : patterns (selPatterns pfx sel) symbols.length = some pats)
    (h1 : '<' ∉ pfx) (h2 : '>' ∉ pfx) (hs : splitAngle act = ps) (hle : ps.length ≤ 2)
    (hcb : checkBetweenBraces act ≠ .inCurlyBrackets) :
    actionFnOn v pfx fallible sel symbols act =
      .ok (mkDefn fallible pats symbols (joinWith (joinComma (selNames v pfx sel)) ps)) := by
  subst hs
  rw [actionFnOn_eq v pfx fallible sel symbols act pats hp h1 h2]
  cases sel with
  | named l => simp only [namedCode, hcb, if_false, selNames]
  | anon l => simp only [anonOutcome, hle, if_true, selNames]

/-- **default_action_spec.** A missing action never fails; its code is `()` for a unit-typed
    nonterminal, otherwise the one selected (or only) symbol, otherwise the tuple of the selected
    symbols in source order — expressed through the names `selNames` that `patterns_spec`
    /`arg_patterns_spec` bind to exactly those arguments. -/
theorem default_action_spec (v : Variant) (pfx : Str) (isUnit fallible : Bool) (expr : List (Sym B))
    (symbols : List (RSym B)) (hlen : symbols.length = expr.length)
    (h1 : '<' ∉ pfx) (h2 : '>' ∉ pfx) :
    actionFn v pfx isUnit fallible expr symbols none =
      .ok (mkDefn fallible (argPatternsOf pfx expr symbols.length) symbols
        (if isUnit then ['(', ')']
         else match selNames v pfx (analyzeExpr expr) with
           | [n] => n
           | ns => ['('] ++ joinComma ns ++ [')'])) := by
  have key := fun act ps => actionFnOn_of_le_one v pfx fallible (analyzeExpr expr) symbols act ps _
    (patterns_selPatterns pfx expr symbols.length hlen) h1 h2
  unfold actionFn
  simp only
  rw [defaultAction_eq v pfx]
  cases isUnit with
  | true => exact key ['(', ')'] [['(', ')']] (by decide) (by decide) (by decide)
  | false =>
    simp only [Bool.false_eq_true, if_false]
    generalize selNames v pfx (analyzeExpr expr) = names at key ⊢
    have tuple := key ['(', '<', '>', ')'] [['('], [')']] (by decide) (by decide) (by decide)
    cases names with
    | nil => exact tuple
    | cons n rest =>
      cases rest with
      | nil =>
        exact (key ['<', '>'] [[], []] (by decide) (by decide) (by decide)).trans
          (by simp only [joinWith, joinComma, List.nil_append, List.append_nil])
      | cons m rest => exact tuple

/-- **arg_patterns_spec** (`patterns_spec` applied to what `action_fn` selects): the generated
    function takes one pattern per symbol of the production; a selected symbol at argument position
    `j` gets its pattern, every other argument gets `_`. -/
theorem arg_patterns_spec (pfx : Str) (expr : List (Sym B)) :
    (argPatternsOf pfx expr expr.length).length = expr.length ∧
    (∀ j p, (j, p) ∈ selPatterns pfx (analyzeExpr expr) → (argPatternsOf pfx expr expr.length)[j]? = some p) ∧
    (∀ j, j < expr.length → (∀ p, (j, p) ∉ selPatterns pfx (analyzeExpr expr)) →
      (argPatternsOf pfx expr expr.length)[j]? = some blank) := by
  obtain ⟨r, hr, h⟩ := patterns_spec _ _ (selPatterns_sorted pfx expr)
  cases hr.symm.trans (patterns_selPatterns pfx expr expr.length rfl)
  exact h

/-- anonymous selections: the k-th selected symbol (source order) is bound to `fresh_name(k)` —
    the k-th `<>` of a counted action, the k-th component of the default tuple -/
theorem selPatterns_anon (pfx : Str) (l : List (Nat × Sym B)) (k : Nat) (hk : k < l.length) :
    (selPatterns pfx (Symbols.anon l))[k]? =
      some ((l[k]).1, ArgPattern.name (Name.immut (freshName pfx k))) ∧
    (selNames Variant.pinned pfx (Symbols.anon l))[k]? = some (freshName pfx k) := by
  simp [selPatterns, selNames, hk]

/-- named selections: each named symbol is bound to the user's pattern; `<>` lists them in
    source order -/
theorem selPatterns_named (v : Variant) (pfx : Str) (l : List (Nat × ArgPattern × Sym B)) (k : Nat) (hk : k < l.length) :
    (selPatterns pfx (Symbols.named l))[k]? = some ((l[k]).1, (l[k]).2.1) ∧
    (selNames v pfx (Symbols.named l))[k]? = some (v.nameOf (l[k]).2.1) := by
  simp [selPatterns, selNames, hk]

theorem actionFnOn_shape (v : Variant) (pfx : Str) (fallible : Bool) (sel : Symbols B)
    (symbols : List (RSym B)) (act : Str) (pats : List ArgPattern)
    (hp : patterns (selPatterns pfx sel) symbols.length = some pats)
    (h1 : '<' ∉ pfx) (h2 : '>' ∉ pfx) :
    (∃ c, actionFnOn v pfx fallible sel symbols act = .ok (mkDefn fallible pats symbols c)) ∨
    (actionFnOn v pfx fallible sel symbols act = .panic ∧
      v.emptyAnonUnwrap = true ∧ sel = .anon [] ∧ countAngle act > 1) ∨
    ∃ a s, actionFnOn v pfx fallible sel symbols act = .error a s := by
  rw [actionFnOn_eq v pfx fallible sel symbols act pats hp h1 h2]
  cases sel with
  | named l => exact .inl ⟨_, rfl⟩
  | anon l =>
    dsimp only
    rw [anonOutcome_count]
    by_cases h1 : countAngle act ≤ 1
    · exact .inl ⟨_, if_pos h1⟩
    · by_cases h2 : countAngle act = l.length
      · exact .inl ⟨_, (if_neg h1).trans (if_pos h2)⟩
      · by_cases h3 : l.length = 0 ∧ v.emptyAnonUnwrap = true
        · exact .inr (.inl ⟨(if_neg h1).trans ((if_neg h2).trans (if_pos h3)), h3.2,
            congrArg Symbols.anon (List.length_eq_zero_iff.1 h3.1), Nat.not_le.1 h1⟩)
        · exact .inr (.inr ⟨_, _, (if_neg h1).trans ((if_neg h2).trans (if_neg h3))⟩)

/-- `action_fn` never trips the `debug_assert!` of `patterns`; patterns, argument types and the
    fallible flag of its result do not depend on the action code -/
theorem action_fn_no_assert (v : Variant) (pfx : Str) (isUnit fallible : Bool) (expr : List (Sym B))
    (symbols : List (RSym B)) (action : Option Str) (hlen : symbols.length = expr.length)
    (h1 : '<' ∉ pfx) (h2 : '>' ∉ pfx) (d : UserDefn B) :
    actionFn v pfx isUnit fallible expr symbols action ≠ .assertFailed ∧
      (actionFn v pfx isUnit fallible expr symbols action = .ok d →
        d.fallible = fallible ∧ d.argTypes = symbols ∧ d.argPatterns = argPatternsOf pfx expr symbols.length) := by
  unfold actionFn
  rcases actionFnOn_shape v pfx fallible (analyzeExpr expr) symbols _ _
    (patterns_selPatterns pfx expr symbols.length hlen) h1 h2 with ⟨c, h⟩ | ⟨h, _⟩ | ⟨a, s, h⟩
  · rw [h]
    exact ⟨nofun, fun hd => by cases hd; exact ⟨rfl, rfl, rfl⟩⟩
  · rw [h]
    exact ⟨nofun, nofun⟩
  · rw [h]
    exact ⟨nofun, nofun⟩

/-- the panic of the pinned tree: exactly an empty anonymous selection (an empty alternative)
    whose explicit action contains two or more `<>`; the repaired tree reports the error -/
theorem action_fn_panic_iff (v : Variant) (pfx : Str) (isUnit fallible : Bool) (expr : List (Sym B))
    (symbols : List (RSym B)) (action : Option Str) (hlen : symbols.length = expr.length)
    (h1 : '<' ∉ pfx) (h2 : '>' ∉ pfx) :
    actionFn v pfx isUnit fallible expr symbols action = .panic ↔
      v.emptyAnonUnwrap = true ∧ analyzeExpr expr = .anon [] ∧
        ∃ code, action = some code ∧ countAngle code > 1 := by
  cases action with
  | none =>
    rw [default_action_spec v pfx isUnit fallible expr symbols hlen h1 h2]
    exact ⟨nofun, fun ⟨_, _, _, h, _⟩ => nomatch h⟩
  | some code =>
    constructor
    · intro h
      rcases actionFnOn_shape v pfx fallible (analyzeExpr expr) symbols code _
        (patterns_selPatterns pfx expr symbols.length hlen) h1 h2 with ⟨c, hc⟩ | ⟨_, hv, hl, hgt⟩ | ⟨a, s, he⟩
      · cases hc.symm.trans h
      · exact ⟨hv, hl, code, rfl, hgt⟩
      · cases he.symm.trans h
    · rintro ⟨hv, hl, _, hc, hgt⟩
      cases hc
      rw [angle_subst_spec v pfx isUnit fallible expr symbols _ hlen h1 h2, hl]
      dsimp only
      rw [anonOutcome_count]
      exact (if_neg (Nat.not_le.2 hgt)).trans
        ((if_neg (Nat.ne_of_gt (Nat.lt_of_succ_lt hgt))).trans (if_pos ⟨rfl, hv⟩))

end LalrpopModel.Lower
