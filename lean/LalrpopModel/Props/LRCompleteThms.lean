import LalrpopModel.Lemmas.LRCompleteUnamb
import LalrpopModel.Lemmas.LRGenericFuel
/-!
Completeness and unambiguity of validated LR tables (final statements; proofs in
`Lemmas/LRComplete*.lean`). Everything is for arbitrary `G T A ann` under the single hypothesis
`validateComplete G T A ann = true` (clauses V0 shape/start, V1 first/nullable, V2 LR(1) items of
`Model/LR/Validate.lean`); the hypothesis is inhabited by the example at the end (a real lalrpop
automaton).

Vocabulary (`Lemmas/LRCompleteBasic.lean`): `Tree.shape` erases the spans `l r` of nodes (the
driver computes them itself); `Tree.skeleton` also reduces every leaf token to its kind;
`Tree.post` lists the productions of the nodes in post-order; `laOf v` is the lookahead in front
of the token list `v` (`none` = EOF). `NoFail T failAt` (`Lemmas/LRCompleteRun.lean`): no action
can be made to fail (`failAt = none`, or no production is fallible).
-/
namespace LalrpopModel.LR

section
variable {G : Grammar} {T : Tables} {A : Automaton} {ann : Ann}

/-! ### The checked first/nullable tables contain the true sets -/

/-- a derivation tree with empty yield has a nonterminal root that `ann` marks nullable; the kind
    of the first token of a non-empty yield is listed in `first` of the root -/
theorem first_sound (h : validateComplete G T A ann = true) (t : Tree) (X : Sym)
    (hwf : Tree.WF G none t) (hroot : t.root G none = some X) :
    (t.yield = [] → ∃ B, X = Sym.n B ∧ ann.nullableNT B = true) ∧
    (∀ a rest, t.yield = a :: rest → ∃ k, a.kind = some k ∧ k ∈ ann.firstSym X) := by
  obtain ⟨h1, h2⟩ := first_sound_tree (valid_of_validateComplete h).first t X hwf hroot
  refine ⟨?_, h2⟩
  intro hy
  have := h1 hy
  cases X with
  | t a => simp [Ann.nullableSym] at this
  | n B => exact ⟨B, rfl, this⟩

/-- lifted to forests and `firstSeq`: the lookahead in front of the yield of a forest for `β`,
    followed by tokens `v` whose lookahead is `la`, is one of `firstSeq β la` -/
theorem first_sound_seq (h : validateComplete G T A ann = true) (fs : Forest) (β : List Sym)
    (v : List Tok) (la : LA) (hwf : Forest.WF G none fs β) (hla : laOf v = la) :
    laOf (fs.yield ++ v) ∈ ann.firstSeq β la :=
  hla ▸ firstSeq_sound (valid_of_validateComplete h).first fs β v hwf

/-! ### Completeness of the driver -/

/-- on the yield of a derivation tree `t` of the start symbol the driver returns `Ok(v)` with `v`
    equal to `t` up to node spans; it has called `tokens.next()` once per token plus once for EOF,
    and has run one action per node of `t` in post-order, then the start production's -/
theorem drive_complete (h : validateComplete G T A ann = true) (t : Tree) (S : NT)
    (hS : G.startSym = some S) (hwf : Tree.WF G none t) (hroot : t.root G none = some (Sym.n S))
    (failAt : Option Nat) (hf : NoFail T failAt) (startLoc : Int) :
    ∃ c v, Returns T failAt startLoc (t.yield.map Item.tok) c (.ok v) ∧ v.shape = t.shape ∧
      c.pulled = (t.yield.map Item.tok).length + 1 ∧
      c.trace.reverse = t.post ++ [G.startProd] ∧ c.acts = t.post.length + 1 := by
  obtain ⟨n, c, v, hrun, hsh, hpu, htr, hac⟩ :=
    drive_complete_run (valid_of_validateComplete h) 0 failAt hf startLoc t S hS hwf hroot
  exact ⟨c, v, ⟨n, 0, hrun⟩, hsh, by simpa using hpu, htr, hac⟩

/-- the same with the fuel made explicit: whatever fuel `af` the `accepts` loop is given (it is
    never called on this path), some number of steps ends the run -/
theorem drive_complete_any_fuel (h : validateComplete G T A ann = true) (t : Tree) (S : NT)
    (hS : G.startSym = some S) (hwf : Tree.WF G none t) (hroot : t.root G none = some (Sym.n S))
    (failAt : Option Nat) (hf : NoFail T failAt) (startLoc : Int) (af : Nat) :
    ∃ n c v, run T af failAt startLoc n (init startLoc (t.yield.map Item.tok)) .pull = (c, .done (.ok v)) ∧
      v.shape = t.shape :=  by
  obtain ⟨n, c, v, hrun, hsh, _⟩ :=
    drive_complete_run (valid_of_validateComplete h) af failAt hf startLoc t S hS hwf hroot
  exact ⟨n, c, v, hrun, hsh⟩

/-! ### `Returns` is functional; unambiguity -/

/-- same tables, `failAt`, start location and input give the same final configuration and
    outcome, whatever the fuel values (`panic .outOfFuel` is the model's own stop of the
    `accepts` loop, not an outcome of the Rust code, and is excluded) -/
theorem returns_unique (T : Tables) (failAt : Option Nat) (startLoc : Int) (input : List Item)
    {c₁ c₂ : Cfg} {r₁ r₂ : Outcome}
    (h₁ : Returns T failAt startLoc input c₁ r₁) (h₂ : Returns T failAt startLoc input c₂ r₂)
    (n₁ : r₁ ≠ .panic .outOfFuel) (n₂ : r₂ ≠ .panic .outOfFuel) : c₁ = c₂ ∧ r₁ = r₂ :=
  (Generic.returns_unique_aux T failAt startLoc h₁ h₂ n₁ n₂).symm

/-- C02 "post-order, exactly once", for *every* run: any way the driver returns on the yield of
    `t` (any fuel), it returns `Ok` of a value of the shape of `t`, the actions it ran are those of
    the nodes of `t` in post-order followed by the start production's, each once, and every token
    was pulled once -/
theorem actions_postorder_once (h : validateComplete G T A ann = true) (t : Tree) (S : NT)
    (hS : G.startSym = some S) (hwf : Tree.WF G none t) (hroot : t.root G none = some (Sym.n S))
    (failAt : Option Nat) (hf : NoFail T failAt) (startLoc : Int) (c : Cfg) (r : Outcome)
    (hret : Returns T failAt startLoc (t.yield.map Item.tok) c r) (hr : r ≠ .panic .outOfFuel) :
    (∃ v, r = .ok v ∧ v.shape = t.shape) ∧
      c.trace.reverse = t.post ++ [G.startProd] ∧ c.acts = t.post.length + 1 ∧
      c.pulled = t.yield.length + 1 := by
  obtain ⟨c', v, hret', hsh, hpu, htr, hac⟩ := drive_complete h t S hS hwf hroot failAt hf startLoc
  obtain ⟨rfl, rfl⟩ := returns_unique T failAt startLoc _ hret hret' hr (by simp)
  exact ⟨⟨v, rfl, hsh⟩, htr, hac, by simpa using hpu⟩

/-- a validated grammar is unambiguous (start symbol): two derivation trees over the very same
    tokens agree up to spans, being both the shape of the value of the one run on these tokens -/
theorem validated_unambiguous_shape (h : validateComplete G T A ann = true) (t₁ t₂ : Tree) (S : NT)
    (hS : G.startSym = some S)
    (h₁ : Tree.WF G none t₁) (r₁ : t₁.root G none = some (Sym.n S))
    (h₂ : Tree.WF G none t₂) (r₂ : t₂.root G none = some (Sym.n S))
    (hy : t₁.yield = t₂.yield) : t₁.shape = t₂.shape := by
  have V := valid_of_validateComplete h
  obtain ⟨n1, c1, v1, hrun1, hsh1, _⟩ := drive_complete_run V 0 none (Or.inl rfl) 0 t₁ S hS h₁ r₁
  obtain ⟨n2, c2, v2, hrun2, hsh2, _⟩ := drive_complete_run V 0 none (Or.inl rfl) 0 t₂ S hS h₂ r₂
  rw [← hy] at hrun2
  obtain ⟨_, hv⟩ := run_unique T 0 none 0 hrun1 hrun2
  cases hv
  rw [← hsh1, hsh2]

/-- … and two derivation trees whose yields have the same kinds agree up to spans and the identity
    of the leaf tokens: relabel the leaves of the second with the tokens of the first -/
theorem validated_unambiguous (h : validateComplete G T A ann = true) (t₁ t₂ : Tree) (S : NT)
    (hS : G.startSym = some S)
    (h₁ : Tree.WF G none t₁) (r₁ : t₁.root G none = some (Sym.n S))
    (h₂ : Tree.WF G none t₂) (r₂ : t₂.root G none = some (Sym.n S))
    (hy : t₁.yield.map (·.kind) = t₂.yield.map (·.kind)) : t₁.skeleton = t₂.skeleton := by
  obtain ⟨a1, a2, a3, a4⟩ := Tree.relabel_spec (G := G) t₂ t₁.yield hy
  have := validated_unambiguous_shape h t₁ (t₂.relabel t₁.yield) S hS h₁ r₁ (a4 h₂) (a3 ▸ r₂) a1.symm
  rw [← Tree.skeleton_shape t₁, this, Tree.skeleton_shape, a2]

/-! ### The completeness half of "accepts iff derives" -/

/-- every token list whose kinds are derivable from the start symbol is accepted: the driver
    returns `Ok(v)` for a derivation tree `v` of the start symbol over exactly these tokens -/
theorem derives_implies_ok (h : validateComplete G T A ann = true) (S : NT) (hS : G.startSym = some S)
    (w : List Term) (hd : Derives G S w) (toks : List Tok) (hk : toks.map (·.kind) = w.map some)
    (failAt : Option Nat) (hf : NoFail T failAt) (startLoc : Int) :
    ∃ c v, Returns T failAt startLoc (toks.map Item.tok) c (.ok v) ∧
      Tree.WF G none v ∧ v.root G none = some (Sym.n S) ∧ v.yield = toks := by
  obtain ⟨n, c, v, hrun, hwf, hroot, hy, _⟩ :=
    derives_ok_run (valid_of_validateComplete h) 0 failAt hf startLoc S hS w hd toks hk
  exact ⟨c, v, ⟨n, 0, hrun⟩, hwf, hroot, hy⟩

end

/-! ### The hypothesis is inhabited

`E → "(" E ")" | ε` with the synthesized `__E → E`; tables and automaton as lalrpop's lane-table
construction emits them (harness `lrdrive`, terminals `0 = "("`, `1 = ")"`), annotation as
`computeAnn` finds it. -/
namespace CompleteExample

def exG : Grammar :=
  { prods := [⟨0, [.t 0, .n 0, .t 1]⟩, ⟨0, []⟩, ⟨1, [.n 0]⟩], nTerm := 2, nNT := 2, startProd := 2 }

def exT : Tables :=
  { nTerm := 2, action := [2, 0,  2, -2,  0, 0,  0, 5,  0, -1], eofAction := [-2, 0, -3, 0, -1],
    goto := [[2, 3, 2, 2, 2], [0, 0, 0, 0, 0]], prodLen := [3, 0, 1], prodLhs := [0, 0, 0],
    isStart := [false, false, true], fallible := [false, false, false], usesRecovery := false }

def exA : Automaton :=
  { states := [
      { cores := [(1, 0), (0, 0), (2, 0)], shifts := [(0, 1)], reduces := [(1, [none])], gotos := [(0, 2)] },
      { cores := [(1, 0), (0, 0), (0, 1)], shifts := [(0, 1)], reduces := [(1, [some 1])], gotos := [(0, 3)] },
      { cores := [(2, 1)], shifts := [], reduces := [(2, [none])], gotos := [] },
      { cores := [(0, 2)], shifts := [(1, 4)], reduces := [], gotos := [] },
      { cores := [(0, 3)], shifts := [], reduces := [(0, [some 1, none])], gotos := [] }] }

def exAnn : Ann :=
  { items := [[(2, 0, none), (0, 0, none), (1, 0, none)],
              [(0, 1, none), (0, 0, some 1), (1, 0, some 1), (0, 1, some 1)],
              [(2, 1, none)],
              [(0, 2, none), (0, 2, some 1)],
              [(0, 3, none), (0, 3, some 1)]],
    nullable := [true, true],
    first := [[0], [0]] }

theorem ex_valid : validateComplete exG exT exA exAnn = true := by decide +kernel

example : validateComplete exG exT exA (computeAnn exG exT 5) = true := by decide +kernel

example : exG.startSym = some 0 := by decide

example : NoFail exT (some 3) := Or.inr (by decide)

/-- the derivation tree of `( )` -/
def exTree : Tree :=
  .node 0 0 2 (.cons (.leaf ⟨0, some 0, 0, 1⟩) (.cons (.node 1 1 1 .nil) (.cons (.leaf ⟨1, some 1, 1, 2⟩) .nil)))

theorem exTree_wf : Tree.WF exG none exTree :=
  .node 0 0 2 ⟨0, [.t 0, .n 0, .t 1]⟩ _ rfl
    (.cons _ _ _ _ (.leaf _ 0 rfl) rfl
      (.cons _ _ _ _ (.node 1 1 1 ⟨0, []⟩ _ rfl .nil) rfl
        (.cons _ _ _ _ (.leaf _ 1 rfl) rfl .nil)))

/-- `drive_complete` at work: `( )` is accepted with the three actions `E → ε`, `E → ( E )`,
    `__E → E` run in this order -/
example : ∃ c v, Returns exT none 0 [.tok ⟨0, some 0, 0, 1⟩, .tok ⟨1, some 1, 1, 2⟩] c (.ok v) ∧
    v.shape = exTree.shape ∧ c.trace.reverse = [1, 0, 2] := by
  obtain ⟨c, v, h1, h2, _, h4, _⟩ :=
    drive_complete ex_valid exTree 0 (by decide) exTree_wf rfl none (Or.inl rfl) 0
  exact ⟨c, v, h1, h2, h4⟩

end CompleteExample

end LalrpopModel.LR
