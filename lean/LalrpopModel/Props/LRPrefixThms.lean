import LalrpopModel.Lemmas.LRPrefixNeg
import LalrpopModel.Lemmas.LRPrefixStack
import LalrpopModel.Props.C01
import LalrpopModel.Props.LRGenericThms
/-!
C04 / C05 — where syntax errors are reported, and what the `expected` lists mean.

Everything is for ARBITRARY `G T A ann` that pass the executable validator
(`validate G T A ann = true`, both halves) and, where stated, the two extra clauses of
`Model/LR/Validate.lean` that `validate` does not contain:

* V5 `checkProductive G A`: every nonterminal that occurs in a right-hand side of a production of
  a nonterminal reachable from the start production derives a terminal string, and no state of
  the automaton has an empty item set (without this C04 is false: lalrpop accepts grammars with
  unproductive nonterminals, and their parsers shift tokens that no sentence starts with);
* V6 `checkStartEof G T`: no entry of `__ACTION` reduces the start production.

Tables without error recovery (`T.usesRecovery = false`), token lists with in-range kinds
(`KindsInRange`), no failing action (`NoFail`). Proofs are in `Lemmas/LRPrefix*.lean`.

Vocabulary (`Lemmas/LRPrefixBasic.lean`): `IsSentencePrefix G S u := ∃ z, Derives G S (u ++ z)`;
`KindsPrefix G S toks := ∃ u, toks.map (·.kind) = u.map some ∧ IsSentencePrefix G S u` (a token
without kind is never part of a sentence); `KindsSentence` likewise; `mkTok a` is a token of kind
`a`, so `KindsPrefix G S (l ++ [mkTok a])` says "the kinds of `l` followed by `a` are a sentence
prefix" (`kindsPrefix_snoc`). `stackYield c.symbols` are the tokens under the symbol stack
(bottom to top): the tokens consumed so far. `errExpected e` is the `expected` field of the two
syntax errors.
-/
namespace LalrpopModel.LR
open LalrpopModel.LR.Generic LalrpopModel.LR.Prefix

section
variable {G : Grammar} {T : Tables} {A : Automaton} {ann : Ann}

/-- what the soundness half and V5 give the proofs below -/
theorem prefix_ctx (hs : validateSound G T A = true) (h5 : checkProductive G A = true) :
    Sound G T A ∧ Just G A ∧ ProdOK G A (fun B => (reachSet G).getD B false = true) := by
  have hc : checkCores G T A = true := by
    simp only [validateSound, Bool.and_eq_true] at hs
    exact hs.1.1.2
  exact ⟨sound_of_validate hs, just_of_checkCores hc, prodOK_of_check h5⟩

/-- `UnrecognizedToken` names `toks[k]`, the last item pulled, and everything before it is on the
    stack (`GenericThms.unrecognized_token_is_last_pulled` on a token list) -/
theorem token_error_io (hrec : T.usesRecovery = false) {toks : List Tok} {failAt : Option Nat}
    {startLoc : Int} {c : Cfg} {tok : Tok} {ex : List Term}
    (h : Returns T failAt startLoc (toks.map Item.tok) c (.err (.unrecognizedToken tok ex))) :
    ∃ k, c.pulled = k + 1 ∧ toks[k]? = some tok ∧ stackYield c.symbols = toks.take k := by
  obtain ⟨k, hk, ht⟩ := token_error_pulled hrec h
  have h3 := ((GenericThms.unrecognized_token_is_last_pulled T failAt startLoc _ c tok ex h).2 hrec).2.2
  rw [← stackYield_eq_flatten, ← List.map_take, toksOf_map_tok, hk, List.take_add_one, ht] at h3
  exact ⟨k, hk, ht, List.append_cancel_right h3⟩

/-- Two runs of the driver (same tables, fuels, `failAt`, start location) on inputs that share
    their first `m` items go through the same phases and the same configurations up to the
    `input` field, as long as at most `m` items have been pulled. -/
theorem prefix_determinism (T : Tables) (hrec : T.usesRecovery = false) (af : Nat) (failAt : Option Nat)
    (startLoc : Int) (I₁ I₂ : List Item) (m : Nat) (hshare : I₁.take m = I₂.take m)
    (n : Nat) (c₁ : Cfg) (ph₁ : Phase)
    (h₁ : run T af failAt startLoc n (init startLoc I₁) .pull = (c₁, ph₁)) (hle : c₁.pulled ≤ m) :
    run T af failAt startLoc n (init startLoc I₂) .pull = ({ c₁ with input := I₂.drop c₁.pulled }, ph₁) :=
  Prefix.prefix_determinism T af failAt startLoc hrec I₁ I₂ m hshare n c₁ ph₁ h₁ hle

/-! ## The negative halves (completeness + determinism) -/

/-- **`UnrecognizedToken` is not reported too late.** The reported token is the last item pulled,
    `toks[k]` with `c.pulled = k + 1`, and the kinds of `toks[0..k]` (the reported token included)
    are not a prefix of any sentence. Needs the completeness half only. -/
theorem error_not_prefix (hc : validateComplete G T A ann = true) (hrec : T.usesRecovery = false)
    {S : NT} (hS : G.startSym = some S) (toks : List Tok) (failAt : Option Nat) (hf : NoFail T failAt)
    (startLoc : Int) {c : Cfg} {tok : Tok} {ex : List Term}
    (h : Returns T failAt startLoc (toks.map Item.tok) c (.err (.unrecognizedToken tok ex))) :
    ∃ k, c.pulled = k + 1 ∧ toks[k]? = some tok ∧
      ∀ u, (toks.take (k + 1)).map (·.kind) = u.map some → ¬ IsSentencePrefix G S u := by
  obtain ⟨k, hk, htok, _⟩ := token_error_io hrec h
  refine ⟨k, hk, htok, fun u hu hp => ?_⟩
  exact err_not_prefix (valid_of_validateComplete hc) hrec hS toks failAt hf startLoc h (hk ▸ ⟨u, hu, hp⟩)

/-- `UnrecognizedEof` (indeed any error) means that the kinds of the input are not a sentence -/
theorem eof_error_not_sentence (hc : validateComplete G T A ann = true)
    {S : NT} (hS : G.startSym = some S) (toks : List Tok) (failAt : Option Nat) (hf : NoFail T failAt)
    (startLoc : Int) {c : Cfg} {loc : Int} {ex : List Term}
    (h : Returns T failAt startLoc (toks.map Item.tok) c (.err (.unrecognizedEof loc ex))) :
    ∀ w, toks.map (·.kind) = w.map some → ¬ Derives G S w := by
  intro w hw hd
  exact err_not_sentence (valid_of_validateComplete hc) hS toks failAt hf startLoc h ⟨w, hw, hd⟩

/-- **Rejected iff not a sentence**: whatever the driver returns (the model's own out-of-fuel stop
    aside), it is an error exactly when the kinds of the input are not a sentence of `S`.
    (That the driver returns at all is termination, C08, not proved here.) -/
theorem rejected_iff_not_sentence (h : validate G T A ann = true) (hrec : T.usesRecovery = false)
    {S : NT} (hS : G.startSym = some S) (toks : List Tok) (hin : KindsInRange T toks)
    (failAt : Option Nat) (hf : NoFail T failAt) (startLoc : Int) {c : Cfg} {r : Outcome}
    (hr : Returns T failAt startLoc (toks.map Item.tok) c r) (hnf : r ≠ .panic .outOfFuel) :
    (∃ e, r = .err e) ↔ ¬ KindsSentence G S toks := by
  obtain ⟨hs, hc⟩ := validate_split h
  cases r with
  | ok v =>
    have hsent : KindsSentence G S toks :=
      (accepts_iff_derives h hrec hS toks hin failAt hf startLoc).1 ⟨c, v, hr⟩
    constructor
    · rintro ⟨e, he⟩
      cases he
    · exact fun hn => (hn hsent).elim
  | err e =>
    exact ⟨fun _ => err_not_sentence (valid_of_validateComplete hc) hS toks failAt hf startLoc hr, fun _ => ⟨e, rfl⟩⟩
  | panic tag =>
    have := driver_no_panic hs (inRange_of_kinds hin) hr tag rfl
    subst this
    exact (hnf rfl).elim

/-! ## No `ExtraToken` (soundness half + V6; any input, recovery on or off) -/

/-- `parse` never answers `ExtraToken` -/
theorem no_extra_token (hs : validateSound G T A = true) (h6 : checkStartEof G T = true)
    {failAt : Option Nat} {startLoc : Int} {input : List Item} {c : Cfg} {r : Outcome}
    (hr : Returns T failAt startLoc input c r) : ∀ la, r ≠ .err (.extraToken la) := by
  have Sd := sound_of_validate hs
  refine no_extra ?_ (checkStartEof_spec h6) hr
  intro p hp
  have hlt : p < G.prods.length := by
    rw [← Sd.isStart_len]; exact (List.getElem?_eq_some_iff.mp hp).1
  have := Sd.isStart_eq p _ (List.getElem?_eq_getElem hlt)
  rw [hp] at this
  simpa using this.symm

/-! ## The consumed input is a sentence prefix (soundness half + V5) -/

/-- **Valid-prefix property.** At every non-final configuration of a run the tokens consumed so
    far (the yields of the trees on the symbol stack) are a prefix of a sentence, and together
    with the lookahead the phase holds they are exactly the tokens pulled. -/
theorem consumed_is_prefix (hs : validateSound G T A = true) (h5 : checkProductive G A = true)
    (hrec : T.usesRecovery = false) {S : NT} (hS : G.startSym = some S) (toks : List Tok)
    (hin : KindsInRange T toks) (failAt : Option Nat) (startLoc : Int) {af n : Nat} {c : Cfg} {ph : Phase}
    (hrun : run T af failAt startLoc n (init startLoc (toks.map Item.tok)) .pull = (c, ph))
    (hnd : ∀ r, ph ≠ .done r) :
    KindsPrefix G S (stackYield c.symbols) ∧ stackYield c.symbols ++ phaseToks ph = toks.take c.pulled := by
  obtain ⟨Sd, J, P⟩ := prefix_ctx hs h5
  obtain ⟨⟨Xs, hp, ht⟩, hy⟩ :=
    reach_stack (G := G) Sd hrec (inRange_of_kinds hin) hrun (phDone_of_ne hnd)
  refine ⟨stack_kindsPrefix Sd J P hS hp ht, ?_⟩
  have hio := ioinv_of_run (T := T) (startLoc := startLoc) hrun
  rw [hio.inp] at hy
  exact held_eq_take hy

/-- **C04, `UnrecognizedToken`.** The error names `toks[k]` itself (so with its own span), it is
    the last item pulled (`c.pulled = k + 1`: nothing beyond it was read), `toks[0..k)` — exactly
    the tokens on the stack — is a prefix of a sentence, and `toks[0..k]` is not. -/
theorem error_at_first_bad_token (h : validate G T A ann = true) (h5 : checkProductive G A = true)
    (hrec : T.usesRecovery = false) {S : NT} (hS : G.startSym = some S) (toks : List Tok)
    (hin : KindsInRange T toks) (failAt : Option Nat) (hf : NoFail T failAt) (startLoc : Int)
    {c : Cfg} {tok : Tok} {ex : List Term}
    (hr : Returns T failAt startLoc (toks.map Item.tok) c (.err (.unrecognizedToken tok ex))) :
    ∃ k, c.pulled = k + 1 ∧ toks[k]? = some tok ∧
      KindsPrefix G S (toks.take k) ∧ ¬ KindsPrefix G S (toks.take (k + 1)) ∧
      stackYield c.symbols = toks.take k := by
  obtain ⟨hs, hc⟩ := validate_split h
  obtain ⟨Sd, J, P⟩ := prefix_ctx hs h5
  obtain ⟨k, hk, htok, hyield⟩ := token_error_io hrec hr
  obtain ⟨Xs, hp, ht, _⟩ := final_stack (G := G) Sd hrec (inRange_of_kinds hin) hr (ex := ex) rfl
  refine ⟨k, hk, htok, ?_, ?_, hyield⟩
  · rw [← hyield]; exact stack_kindsPrefix Sd J P hS hp ht
  · rw [← hk]
    exact err_not_prefix (valid_of_validateComplete hc) hrec hS toks failAt hf startLoc hr

/-- … hence `k` is THE position of the first bad token: `toks[0..j)` is a sentence prefix
    exactly for `j ≤ k` (the shortest prefix that is not a sentence prefix is `toks[0..k]`). -/
theorem first_bad_token_unique (h : validate G T A ann = true) (h5 : checkProductive G A = true)
    (hrec : T.usesRecovery = false) {S : NT} (hS : G.startSym = some S) (toks : List Tok)
    (hin : KindsInRange T toks) (failAt : Option Nat) (hf : NoFail T failAt) (startLoc : Int)
    {c : Cfg} {tok : Tok} {ex : List Term}
    (hr : Returns T failAt startLoc (toks.map Item.tok) c (.err (.unrecognizedToken tok ex))) :
    ∀ j, KindsPrefix G S (toks.take j) ↔ j + 1 ≤ c.pulled := by
  obtain ⟨k, hk, _, hpos, hneg, _⟩ := error_at_first_bad_token h h5 hrec hS toks hin failAt hf startLoc hr
  intro j
  rw [hk, Nat.succ_le_succ_iff]
  exact ⟨fun hj => Nat.le_of_not_lt fun hlt => hneg (.of_take_le hlt hj), fun hj => .of_take_le hj hpos⟩

/-- **C04, `UnrecognizedEof`.** Every prefix of the input is a prefix of a sentence, the input is
    not a sentence, the location is the end of the last token (`startLoc` for the empty input), the
    whole input and the end-of-input probe were pulled, and all tokens are on the stack. -/
theorem eof_error (h : validate G T A ann = true) (h5 : checkProductive G A = true)
    (hrec : T.usesRecovery = false) {S : NT} (hS : G.startSym = some S) (toks : List Tok)
    (hin : KindsInRange T toks) (failAt : Option Nat) (hf : NoFail T failAt) (startLoc : Int)
    {c : Cfg} {loc : Int} {ex : List Term}
    (hr : Returns T failAt startLoc (toks.map Item.tok) c (.err (.unrecognizedEof loc ex))) :
    (∀ j, KindsPrefix G S (toks.take j)) ∧ ¬ KindsSentence G S toks ∧
      loc = (match toks.getLast? with
        | some t => t.r
        | none => startLoc) ∧
      c.pulled = toks.length + 1 ∧ stackYield c.symbols = toks := by
  obtain ⟨hs, hc⟩ := validate_split h
  obtain ⟨Sd, J, P⟩ := prefix_ctx hs h5
  obtain ⟨h1, _, h3, h4⟩ := GenericThms.unrecognized_eof_location T failAt startLoc _ c loc ex hr
  have hy := h4 hrec
  rw [← stackYield_eq_flatten, toksOf_map_tok] at hy
  obtain ⟨Xs, hp, ht, _⟩ := final_stack (G := G) Sd hrec (inRange_of_kinds hin) hr (ex := ex) rfl
  have hpre : KindsPrefix G S toks := hy ▸ stack_kindsPrefix Sd J P hS hp ht
  refine ⟨fun j => hpre.take j, ?_, ?_, by rwa [List.length_map] at h1, hy⟩
  · exact err_not_sentence (valid_of_validateComplete hc) hS toks failAt hf startLoc hr
  · rw [toksOf_map_tok] at h3; exact h3

/-- **C05 soundness.** Every terminal `a` listed in the `expected` field of `UnrecognizedToken` /
    `UnrecognizedEof` is a valid continuation: the tokens consumed (those on the stack) followed
    by `a` are a prefix of a sentence. Needs the soundness half, V5 and V6. -/
theorem expected_sound (hs : validateSound G T A = true) (h5 : checkProductive G A = true)
    (h6 : checkStartEof G T = true) (hrec : T.usesRecovery = false) {S : NT} (hS : G.startSym = some S)
    (toks : List Tok) (hin : KindsInRange T toks) (failAt : Option Nat) (startLoc : Int)
    {c : Cfg} {e : PErr} {ex : List Term}
    (hr : Returns T failAt startLoc (toks.map Item.tok) c (.err e)) (he : errExpected e = some ex) :
    ∀ a ∈ ex, KindsPrefix G S (stackYield c.symbols ++ [mkTok a]) := by
  obtain ⟨Sd, J, P⟩ := prefix_ctx hs h5
  obtain ⟨Xs, hp, ht, af, hex⟩ := final_stack (G := G) Sd hrec (inRange_of_kinds hin) hr he
  intro a ha
  exact expected_sound_stack Sd J P hS (checkStartEof_spec h6) hp ht hex a ha

/-- C05 soundness for `UnrecognizedToken` at position `k`, in terms of the input -/
theorem expected_sound_token (h : validate G T A ann = true) (h5 : checkProductive G A = true)
    (h6 : checkStartEof G T = true) (hrec : T.usesRecovery = false) {S : NT} (hS : G.startSym = some S)
    (toks : List Tok) (hin : KindsInRange T toks) (failAt : Option Nat) (hf : NoFail T failAt)
    (startLoc : Int) {c : Cfg} {tok : Tok} {ex : List Term}
    (hr : Returns T failAt startLoc (toks.map Item.tok) c (.err (.unrecognizedToken tok ex))) :
    ∃ k, c.pulled = k + 1 ∧ ∀ a ∈ ex, ∃ u, (toks.take k).map (·.kind) = u.map some ∧
      IsSentencePrefix G S (u ++ [a]) := by
  obtain ⟨k, hk, _, _, _, hy⟩ := error_at_first_bad_token h h5 hrec hS toks hin failAt hf startLoc hr
  refine ⟨k, hk, fun a ha => ?_⟩
  have := expected_sound (validate_split h).1 h5 h6 hrec hS toks hin failAt startLoc hr (ex := ex) rfl a ha
  rw [hy] at this
  exact kindsPrefix_snoc.mp this

/-- C05 soundness for `UnrecognizedEof`, in terms of the input -/
theorem expected_sound_eof (h : validate G T A ann = true) (h5 : checkProductive G A = true)
    (h6 : checkStartEof G T = true) (hrec : T.usesRecovery = false) {S : NT} (hS : G.startSym = some S)
    (toks : List Tok) (hin : KindsInRange T toks) (failAt : Option Nat) (hf : NoFail T failAt)
    (startLoc : Int) {c : Cfg} {loc : Int} {ex : List Term}
    (hr : Returns T failAt startLoc (toks.map Item.tok) c (.err (.unrecognizedEof loc ex))) :
    ∀ a ∈ ex, ∃ u, toks.map (·.kind) = u.map some ∧ IsSentencePrefix G S (u ++ [a]) := by
  obtain ⟨_, _, _, _, hy⟩ := eof_error h h5 hrec hS toks hin failAt hf startLoc hr
  intro a ha
  have := expected_sound (validate_split h).1 h5 h6 hrec hS toks hin failAt startLoc hr (ex := ex) rfl a ha
  rw [hy] at this
  exact kindsPrefix_snoc.mp this

/-- the list is strictly increasing, hence duplicate-free, and names terminals of `__TERMINAL`
    only (corollary of `GenericThms.expected_nodup_sorted`) -/
theorem expected_nodup (hs : validateSound G T A = true) (hrec : T.usesRecovery = false)
    (toks : List Tok) (hin : KindsInRange T toks) (failAt : Option Nat) (startLoc : Int)
    {c : Cfg} {e : PErr} {ex : List Term}
    (hr : Returns T failAt startLoc (toks.map Item.tok) c (.err e)) (he : errExpected e = some ex) :
    ex.Pairwise (fun (a b : Nat) => a < b) ∧ ex.Nodup ∧ ∀ x : Nat, x ∈ ex → x < T.nRepr := by
  obtain ⟨Xs, hp, ht, af, hex⟩ :=
    final_stack (G := G) (sound_of_validate hs) hrec (inRange_of_kinds hin) hr he
  obtain ⟨h1, h2, h3, _⟩ := GenericThms.expected_nodup_sorted T af c.states ex hex
  exact ⟨h1, h2, h3⟩

/-- the error-recovery pseudo-terminal (the last terminal, present when recovery is on) is never
    listed, whatever the stack (restatement of `GenericThms.expected_nodup_sorted`) -/
theorem expected_excludes_error (T : Tables) (af : Nat) (states : List Nat) (ex : List Term)
    (h : expected T af states = .ok ex) (hrec : T.usesRecovery = true) : T.nTerm - 1 ∉ ex :=
  (GenericThms.expected_nodup_sorted T af states ex h).2.2.2 hrec

/-! ### completeness of the list

Full statement (NOT proved; it needs exact LR(1) lookaheads, i.e. a validator clause saying that
every reduce entry `ACTION[s, a] = reduce p` has an LR(1) item `[p, |rhs p|, a]` that is valid —
over rightmost derivations — for every stack reaching `s`, which the lane-table and LALR
constructions do not satisfy):

  theorem expected_complete_canonical (h : validate G T A ann = true) (hcanon : CanonicalLR1 G T A)
      … (hr : Returns T failAt startLoc (toks.map Item.tok) c (.err e)) (he : errExpected e = some ex) :
      ∀ a, a < T.nRepr → KindsPrefix G S (stackYield c.symbols ++ [mkTok a]) → a ∈ ex

What is proved, for EVERY validated table:
(a) `expected_mem_iff_accepts`: the list is exactly what `accepts` answers on the stack as it is
    when the error is detected;
(b) `expected_complete_if_stack_unchanged`: if that stack is the one the parser had when it
    pulled the offending token (resp. saw the end of input), every valid continuation is listed;
(c) `expected_complete_no_reduction`: in particular when the error is raised in the step right
    after that pull, i.e. when no reduction was performed under the offending lookahead.
Canonical LR(1) tables never reduce under a lookahead that cannot follow, which is the missing
link (`canonical ⇒ hypothesis of (c)`); with merged lookaheads (LALR, lane table) the parser may
reduce first, and a valid continuation of the consumed input may then be missing from the list.
-/

/-- (a) the list is what `accepts` says about the stack at the moment of the error -/
theorem expected_mem_iff_accepts (hs : validateSound G T A = true) (hrec : T.usesRecovery = false)
    (toks : List Tok) (hin : KindsInRange T toks) (failAt : Option Nat) (startLoc : Int)
    {c : Cfg} {e : PErr} {ex : List Term}
    (hr : Returns T failAt startLoc (toks.map Item.tok) c (.err e)) (he : errExpected e = some ex) :
    ∃ af, ∀ a : Nat, a ∈ ex ↔ (a < T.nRepr ∧ accepts T af c.states (some a) = .ok true) := by
  obtain ⟨Xs, hp, ht, af, hex⟩ :=
    final_stack (G := G) (sound_of_validate hs) hrec (inRange_of_kinds hin) hr he
  exact ⟨af, GenericThms.expected_mem_iff T af c.states ex hex⟩

/-- (b) **C05 completeness, partial.** If the state stack at the moment of the error is the one
    the parser had in some configuration `c₀` in which it was about to pull (so `c₀.pulled` tokens
    were consumed), then every terminal `a` of `__TERMINAL` such that those tokens followed by `a`
    are a prefix of a sentence is listed. -/
theorem expected_complete_if_stack_unchanged (h : validate G T A ann = true) (hrec : T.usesRecovery = false)
    {S : NT} (hS : G.startSym = some S) (toks : List Tok) (hin : KindsInRange T toks)
    (failAt : Option Nat) (hf : NoFail T failAt) (startLoc : Int) {c : Cfg} {e : PErr} {ex : List Term}
    (hr : Returns T failAt startLoc (toks.map Item.tok) c (.err e)) (he : errExpected e = some ex)
    {af n₀ : Nat} {c₀ : Cfg}
    (hpull : run T af failAt startLoc n₀ (init startLoc (toks.map Item.tok)) .pull = (c₀, .pull))
    (hst : c₀.states = c.states) :
    ∀ a : Nat, a < T.nRepr → KindsPrefix G S (toks.take c₀.pulled ++ [mkTok a]) → a ∈ ex := by
  obtain ⟨hs, hc⟩ := validate_split h
  obtain ⟨Xs, hp, ht, af₁, hex⟩ :=
    final_stack (G := G) (sound_of_validate hs) hrec (inRange_of_kinds hin) hr he
  intro a ha hpre
  obtain ⟨af', hacc⟩ := accepts_of_continuation (valid_of_validateComplete hc) hrec hS toks failAt hf
    startLoc hpull a hpre
  rw [hst] at hacc
  exact expected_complete_stack hex ha hacc

/-- (c) … in particular when the error is raised by the step right after the pull of the offending
    item (or by that pull itself): no reduction was performed under the offending lookahead. -/
theorem expected_complete_no_reduction (h : validate G T A ann = true) (hrec : T.usesRecovery = false)
    {S : NT} (hS : G.startSym = some S) (toks : List Tok) (hin : KindsInRange T toks)
    (failAt : Option Nat) (hf : NoFail T failAt) (startLoc : Int) {c : Cfg} {e : PErr} {ex : List Term}
    (he : errExpected e = some ex) {af n₀ : Nat} {c₀ : Cfg}
    (h₀ : run T af failAt startLoc n₀ (init startLoc (toks.map Item.tok)) .pull = (c₀, .pull))
    (h₂ : run T af failAt startLoc (n₀ + 2) (init startLoc (toks.map Item.tok)) .pull = (c, .done (.err e))) :
    ∀ a : Nat, a < T.nRepr → KindsPrefix G S (toks.take c₀.pulled ++ [mkTok a]) → a ∈ ex :=
  expected_complete_if_stack_unchanged h hrec hS toks hin failAt hf startLoc ⟨_, _, h₂⟩ he h₀
    (states_of_error_after_pull hrec h₀ h₂ he).symm

end

/-! ## The hypotheses are satisfiable

The grammar `E → "(" E ")" | ε` of `Props/LRCompleteThms.lean` (a real lalrpop automaton). -/
namespace PrefixExample

theorem ex_validate : validate CompleteExample.exG CompleteExample.exT CompleteExample.exA CompleteExample.exAnn = true := by
  have hc := CompleteExample.ex_valid
  rw [validateComplete, Bool.and_eq_true, Bool.and_eq_true, Bool.and_eq_true] at hc
  rw [validate, CompleteExample.ex_valid, validateSound, hc.1.1.1, hc.1.1.2]
  decide
theorem ex_v5 : checkProductive CompleteExample.exG CompleteExample.exA = true := by decide
theorem ex_v6 : checkStartEof CompleteExample.exG CompleteExample.exT = true := by decide
example : CompleteExample.exT.usesRecovery = false := rfl
example : CompleteExample.exG.startSym = some 0 := by decide
example : NoFail CompleteExample.exT none := Or.inl rfl

def lp (id : Nat) : Tok := ⟨id, some 0, id, id + 1⟩
def rp (id : Nat) : Tok := ⟨id, some 1, id, id + 1⟩

/-- `( ) )`: `UnrecognizedToken` at the third token, nothing expected (only the end of input fits) -/
theorem ex_token_error : ∃ c, Returns CompleteExample.exT none 0 ([lp 0, rp 1, rp 2].map Item.tok) c
    (.err (.unrecognizedToken (rp 2) [])) := ⟨_, 40, 10, rfl⟩

/-- `( (`: `UnrecognizedEof` at the end of the second token; both `(` and `)` continue the input -/
theorem ex_eof_error : ∃ c, Returns CompleteExample.exT none 0 ([lp 0, lp 1].map Item.tok) c
    (.err (.unrecognizedEof 2 [0, 1])) := ⟨_, 40, 10, rfl⟩

/-- a non-final configuration (hypotheses of `consumed_is_prefix`) -/
example : ∃ c, run CompleteExample.exT 10 none 0 3 (init 0 ([lp 0, rp 1, rp 2].map Item.tok)) .pull = (c, .act (rp 1) 1) :=
  ⟨_, rfl⟩

/-- hypotheses of `expected_complete_no_reduction`: on `)` the error is raised in the step right
    after the pull, and the list `[ "(" ]` is complete (the empty input is a sentence, `(` continues it) -/
example : ∃ c₀ c, run CompleteExample.exT 10 none 0 0 (init 0 ([rp 0].map Item.tok)) .pull = (c₀, .pull) ∧
    run CompleteExample.exT 10 none 0 2 (init 0 ([rp 0].map Item.tok)) .pull = (c, .done (.err (.unrecognizedToken (rp 0) [0]))) :=
  ⟨_, _, rfl, rfl⟩

theorem ex_inRange : KindsInRange CompleteExample.exT [lp 0, rp 1, rp 2] := by
  intro t ht k hk
  simp only [List.mem_cons, List.not_mem_nil, or_false] at ht
  rcases ht with rfl | rfl | rfl <;> cases hk <;> decide

/-- the theorems at work on `( ) )`: some `k` splits the input into a sentence prefix and a first
    bad token, and nothing is expected at that point but the end of input -/
example : ∃ k, KindsPrefix CompleteExample.exG 0 ([lp 0, rp 1, rp 2].take k) ∧
    ¬ KindsPrefix CompleteExample.exG 0 ([lp 0, rp 1, rp 2].take (k + 1)) := by
  obtain ⟨c, hc⟩ := ex_token_error
  obtain ⟨k, _, _, hpos, hneg, _⟩ := error_at_first_bad_token ex_validate ex_v5 rfl (S := 0) (by decide)
    [lp 0, rp 1, rp 2] ex_inRange none (Or.inl rfl) 0 hc
  exact ⟨k, hpos, hneg⟩

example : ∀ c r, Returns CompleteExample.exT none 0 ([lp 0, rp 1, rp 2].map Item.tok) c r →
    ∀ la, r ≠ .err (.extraToken la) :=
  fun _ _ hr => no_extra_token (validate_split ex_validate).1 ex_v6 hr

end PrefixExample

end LalrpopModel.LR
