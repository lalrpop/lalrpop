import LalrpopModel.Props.C21
/-!
C22 — a crash during generation never leaves output that a later build accepts.

A crash (process killed at any point, or a write failing at any byte) leaves the state
`applyActs st cut` for some `CrashPrefix (plan v p cfg st i).2 cut`: any prefix of the file-system
actions of `process_file_into`, the last write possibly cut at any byte.

* `header_then_crash`: for the original write sequence (`tmpRename = false`: version line and hash
  line written into the `.rs` file before the body) the property is FALSE, for every generator and
  hash function: the crash state after the two header lines and any proper prefix of the body is
  accepted by the next non-forced build, which leaves the truncated file in place.
* `fixed_crash_then_history_then_build_current`: after a crash, any further history (editing the
  grammar to one with a shorter or longer output included) and then a build gives the forced output
  of the then-current text; needs the temporary file to be truncated when opened (`Variant.Sound`).
  `stale_tmp_tail_kept` is the counterexample for opening it without truncation.
* `crash_then_build_current`: for the repaired sequence (`tmpRename = true`: temporary sibling +
  atomic `rename`) the property holds for every crash prefix; `fixed_crash_then_build_current` is
  the statement without UTF-8 side conditions for the fully repaired code.
-/

namespace LalrpopModel.Build

variable {p : Params} {v : Variant} {Good : Bytes → Bytes → Prop}

/-- crash prefixes of `remove (rs i) :: mid` where `mid` does not touch `.rs` files -/
theorem crash_remove_mid {i : Nat} {mid cut : List FsAct} (hmid : NoRs mid)
    (h : CrashPrefix (FsAct.remove (.rs i) :: mid) cut) :
    cut = [] ∨ ∃ cut', cut = FsAct.remove (.rs i) :: cut' ∧ NoRs cut' := by
  cases h with
  | nil => exact Or.inl rfl
  | cons _ h' => exact Or.inr ⟨_, rfl, fun j => h'.not_touches (hmid j)⟩

/-- **Shape of the crash prefixes of the fixed sequence**: nothing, or everything, or the removal
    of the old output followed by actions on the report and the temporary file only. -/
theorem crash_shape_fixed (ht : v.tmpRename = true) (cfg : Cfg) (st : St) (i : Nat)
    {cut : List FsAct} (h : CrashPrefix (plan v p cfg st i).2 cut) :
    cut = (plan v p cfg st i).2 ∨ cut = [] ∨
      ∃ cut', cut = FsAct.remove (.rs i) :: cut' ∧ NoRs cut' := by
  have hload : ∀ {cut : List FsAct}, CrashPrefix (loadFailActs v i) cut →
      cut = [] ∨ ∃ cut', cut = FsAct.remove (.rs i) :: cut' ∧ NoRs cut' := by
    intro cut hc
    unfold loadFailActs at hc
    split at hc
    · exact crash_remove_mid (mid := []) (fun _ _ ha => nomatch ha) hc
    · exact Or.inl hc.of_nil
  cases hg : st.gr i with
  | none =>
    rcases plan_missing v p cfg hg with ⟨e, hp⟩ | hp
    · rw [hp] at h; exact Or.inr (Or.inl h.of_nil)
    · rw [hp] at h; exact Or.inr (hload h)
  | some g =>
    rcases need_cases v p cfg st i g with hn | ⟨hf, f, hfi, hacc | ⟨hbad, hut⟩⟩
    · cases hu : validUtf8 g with
      | false => rw [plan_notUtf8 hg hn hu] at h; exact Or.inr (hload h)
      | true =>
        cases hr : (p.gen g).result with
        | error e =>
          rw [plan_genErr hg hn hu hr] at h
          exact Or.inr (crash_remove_mid (reportActs_noRs _ _ _) h)
        | ok body =>
          rw [plan_built hg hn hu hr, if_pos ht, ← List.append_assoc] at h ⊢
          -- the rename is the last action, and atomic
          rcases h.snoc_rename with h' | rfl
          · exact Or.inr (crash_remove_mid
              ((reportActs_noRs _ _ _).append (tmpWrites_noRs v p i g body)) h')
          · exact Or.inl rfl
    · rw [plan_upToDate hg hf hfi hacc] at h
      exact Or.inr (Or.inl h.of_nil)
    · rw [plan_headerErr hg hf hfi hbad hut] at h
      exact Or.inr (Or.inl h.of_nil)

/-- what a crash of the fixed sequence can leave in the `.rs` files: for every grammar `j` the old
    output; or, for the grammar being built, nothing or the complete new output -/
theorem crash_states_fixed (hs : v.Sound) (ht : v.tmpRename = true) (cfg : Cfg) (st : St) (i : Nat)
    {cut : List FsAct} (h : CrashPrefix (plan v p cfg st i).2 cut) :
    RunEffect p i st (applyActs st cut) := by
  rcases crash_shape_fixed ht cfg st i h with rfl | rfl | ⟨cut', rfl, hno⟩
  · exact build_effect hs p cfg st i
  · exact .refl p i st
  · exact .remove hno p st i

/-- every crash state of the fixed sequence is honest -/
theorem crash_inv_fixed (hp : HeaderOk p) (hinj : HashInj p) (hgs : GoodSpec p Good)
    (hs : v.Sound) (ht : v.tmpRename = true) (cfg : Cfg)
    (st : St) (i : Nat) (hinv : Inv Good v p st) {cut : List FsAct}
    (h : CrashPrefix (plan v p cfg st i).2 cut) : Inv Good v p (applyActs st cut) :=
  (crash_states_fixed hs ht cfg st i h).inv hp hinj hgs hinv

/-- **Crash consistency of the fixed sequence.**  Take any state in which every output is honest
    (for instance any state reached by a history, `inv_preserved_by_ops`), a UTF-8 grammar `g` for
    `i` and readable header lines.  Interrupt a build of `i` (forced or not, with or without
    report) at ANY crash prefix — any step boundary, any byte of any write.  Then the next
    non-forced build leaves exactly the bytes a forced build of `g` writes (`version ⏎ hash ⏎ body`,
    or no file when generation fails).  `rename` being atomic is the assumption built into
    `CrashPrefix`. -/
theorem crash_then_build_current (hp : HeaderOk p) (hinj : HashInj p) (hs : v.Sound) (ht : v.tmpRename = true)
    (cfg : Cfg) (st : St) (i : Nat)
    (g : Bytes) (hinv : Inv (Exact p) v p st) (hg : st.gr i = some g) (hu : validUtf8 g = true)
    (hh : ∀ f, st.fs (.rs i) = some f → headerUtf8 f.data = true)
    {cut : List FsAct} (h : CrashPrefix (plan v p cfg st i).2 cut) :
    ((build v p { force := false } (applyActs st cut) i).2.fs (.rs i)).map (·.data) =
      match (p.gen g).result with
      | .ok body => some (canon p g body)
      | .error _ => none := by
  have he := crash_states_fixed hs ht cfg st i h
  have hg1 : (applyActs st cut).gr i = some g := by rw [he.gr]; exact hg
  have hh1 : ∀ f, (applyActs st cut).fs (.rs i) = some f → headerUtf8 f.data = true := by
    intro f hf
    rcases he.own with e | e | ⟨g', body, c, _, _, e⟩
    · exact hh f (e ▸ hf)
    · rw [e] at hf; cases hf
    · rw [e] at hf; cases hf; exact headerUtf8_canon hp g' body
  exact (build_eq_forced hs _ i g (he.inv hp hinj (exact_spec p) hinv) hg1 hu hh1).trans
    (forced_build_output hs { force := true } _ i g hg1 rfl hu)

/-- other grammars' outputs are not affected by the crash -/
theorem crash_frame (hs : v.Sound) (ht : v.tmpRename = true) (cfg : Cfg) (st : St) (i j : Nat) (g : Bytes)
    (hg : st.gr i = some g) (hj : j ≠ i)
    {cut : List FsAct} (h : CrashPrefix (plan v p cfg st i).2 cut) :
    (applyActs st cut).fs (.rs j) = st.fs (.rs j) :=
  (crash_states_fixed hs ht cfg st i h).frame j hj

/-- **Crash consistency of the repaired code, no side conditions** (`Variant.fixed`-like: temp +
    rename, old output removed first, unreadable headers rebuilt): from any honest state, for any
    grammar text and any existing output bytes, after any crash prefix of a build the next
    non-forced build leaves exactly what a forced build leaves. -/
theorem fixed_crash_then_build_current (hp : HeaderOk p) (hinj : HashInj p) (hgu : GenUtf8 p)
    (hs : v.Sound) (ht : v.tmpRename = true) (hr : v.removeFirst = true) (hut : v.utf8Tolerant = true)
    (cfg : Cfg) (st : St) (i : Nat) (g : Bytes) (hinv : Inv (Exact p) v p st)
    (hg : st.gr i = some g) {cut : List FsAct} (h : CrashPrefix (plan v p cfg st i).2 cut) :
    ((build v p { force := false } (applyActs st cut) i).2.fs (.rs i)).map (·.data) =
      ((build v p { force := true } (applyActs st cut) i).2.fs (.rs i)).map (·.data) := by
  have hg1 : (applyActs st cut).gr i = some g := by rw [applyActs_gr]; exact hg
  exact fixed_build_eq_forced hs hgu hr hut _ i g
    (crash_inv_fixed hp hinj (exact_spec p) hs ht cfg st i hinv h) hg1

/-- **Crash, then anything, then build** (repaired code).  After ANY crash prefix of a build, ANY
    further history — in particular editing the grammar to a different text with a shorter or a
    longer output, changing options, deleting or altering outputs (honest hand edits), more builds
    — followed by a non-forced build of an existing grammar file leaves exactly the bytes of a
    forced build of the text the grammar has AT THAT TIME.  Whatever the interrupted build left in
    the temporary file does not matter: the temporary file is truncated when it is opened
    (`v.Sound`; without truncation this is false, `stale_tmp_tail_kept`). -/
theorem fixed_crash_then_history_then_build_current (hp : HeaderOk p) (hinj : HashInj p)
    (hgu : GenUtf8 p) (hs : v.Sound) (ht : v.tmpRename = true) (hr : v.removeFirst = true)
    (hut : v.utf8Tolerant = true) (cfg : Cfg) (st : St) (i : Nat) (hinv : Inv (Exact p) v p st)
    {cut : List FsAct} (h : CrashPrefix (plan v p cfg st i).2 cut)
    (ops : List Op) (hok : HistOk (Exact p) v p (applyActs st cut) ops)
    (j : Nat) (g' : Bytes) (hg' : (run v p (applyActs st cut) ops).gr j = some g') :
    ((build v p { force := false } (run v p (applyActs st cut) ops) j).2.fs (.rs j)).map (·.data) =
      ((build v p { force := true } (run v p (applyActs st cut) ops) j).2.fs (.rs j)).map (·.data) :=
  fixed_build_eq_forced hs hgu hr hut _ j g'
    (inv_preserved_by_ops hp hinj (exact_spec p) hs ops _
      (crash_inv_fixed hp hinj (exact_spec p) hs ht cfg st i hinv h) hok) hg'

/-! ### Opening the temporary file without truncation: counterexample -/

/-- If the temporary file is opened WITHOUT truncation
    (`truncTmp = false`: `OpenOptions::new().write(true).create(true)`), a temporary file left
    behind by an interrupted build (any contents `old` longer than the new output) is only
    overwritten at its beginning: the complete, uninterrupted build of grammar `g` renames into
    place the file `version ⏎ hash g ⏎ body ++ tail-of-old`, which differs from the forced output
    of a clean directory, and every later non-forced build accepts it. -/
theorem stale_tmp_tail_kept (hp : HeaderOk p) (ht : v.tmpRename = true) (hk : v.truncTmp = false)
    (cfg : Cfg) (st : St) (i : Nat) (g body old : Bytes) (c : Nat)
    (hg : st.gr i = some g) (hu : validUtf8 g = true) (hgen : (p.gen g).result = .ok body)
    (hneed : cfg.force = true ∨ needsRebuild v p g ((st.fs (.rs i)).map (·.data)) = .ok true)
    (htmp : st.fs (.tmp i) = some ⟨old, c⟩) (hlen : (canon p g body).length < old.length) :
    (build v p cfg st i).1 = .built ∧
    (∃ c', (build v p cfg st i).2.fs (.rs i) =
      some ⟨canon p g body ++ old.drop (canon p g body).length, c'⟩) ∧
    canon p g body ++ old.drop (canon p g body).length ≠ canon p g body ∧
    build v p { force := false } (build v p cfg st i).2 i = (.upToDate, (build v p cfg st i).2) := by
  have hplan : plan v p cfg st i = (.built,
      (FsAct.remove (.rs i) :: reportActs cfg i (p.gen g).reports) ++
        (writeOutKeep (.tmp i) p g body ++ [.rename (.tmp i) (.rs i)])) := by
    rw [plan_built hg hneed hu hgen, if_pos ht, hk]
    rfl
  -- the temporary file survives the removal of the old output and the report writes
  have htmp1 : (applyActs st (FsAct.remove (.rs i) :: reportActs cfg i (p.gen g).reports)).fs (.tmp i) =
      some ⟨old, c⟩ := by
    rw [applyActs_cons, applyActs_frame _ _ _ (reportActs_touches cfg i _ _ Path.noConfusion)]
    exact (applyAct_frame st (.remove (.rs i)) _ Path.noConfusion).trans htmp
  have hcan : ∀ t, canon p g body ++ t = canon p g (body ++ t) := fun t => List.append_assoc _ _ t
  have hrs : (build v p cfg st i).2.fs (.rs i) =
      some ⟨canon p g body ++ old.drop (canon p g body).length,
        (applyActs st (FsAct.remove (.rs i) :: reportActs cfg i (p.gen g).reports)).clock⟩ := by
    rw [build_eq, hplan]
    show (applyActs st (_ ++ (_ ++ [.rename (.tmp i) (.rs i)]))).fs (.rs i) = _
    rw [applyActs_append, applyActs_snoc_rename _ _ _ _ Path.noConfusion, applyActs_writeOutKeep,
      htmp1]
    rfl
  refine ⟨by rw [build_eq, hplan], ⟨_, hrs⟩, ?_, ?_⟩
  · exact fun e => Nat.not_le.mpr hlen (List.drop_eq_nil_iff.mp (List.append_right_eq_self.mp e))
  · have hgr : (build v p cfg st i).2.gr i = some g := by rw [build_eq, applyActs_gr]; exact hg
    rw [hcan] at hrs
    exact untouched_when_current hp v _ i g _ _ hgr hrs

/-! ### The unchanged code: counterexample -/

/-- the crash prefix "old output removed, reports written, file created, version line, hash line,
    first `k` bytes of the body" of the old sequence -/
def headerCrashCut (p : Params) (cfg : Cfg) (i : Nat) (g body : Bytes) (k : Nat) : List FsAct :=
  (FsAct.remove (.rs i) :: reportActs cfg i (p.gen g).reports) ++ writeOut (.rs i) p g (body.take k)

/-- The old sequence violates C22, for every generator, hash function and
    version string (`HeaderOk`), every state in which grammar `i` (UTF-8 text `g`, generated body
    `body`) has to be rebuilt, and every `k < body.length`:
    * `headerCrashCut … k` is a crash prefix of the build (the body write cut at byte `k`);
    * the next non-forced build answers "up to date" and changes nothing;
    * the file it leaves is `version ⏎ hash g ⏎ body[..k]`, not what a forced build writes. -/
theorem header_then_crash (hp : HeaderOk p) (ht : v.tmpRename = false) (cfg : Cfg) (st : St) (i : Nat)
    (g body : Bytes) (k : Nat)
    (hg : st.gr i = some g) (hu : validUtf8 g = true) (hgen : (p.gen g).result = .ok body)
    (hneed : cfg.force = true ∨ needsRebuild v p g ((st.fs (.rs i)).map (·.data)) = .ok true)
    (hk : k < body.length) :
    CrashPrefix (plan v p cfg st i).2 (headerCrashCut p cfg i g body k) ∧
    (let st1 := applyActs st (headerCrashCut p cfg i g body k)
     build v p { force := false } st1 i = (.upToDate, st1) ∧
     (st1.fs (.rs i)).map (·.data) = some (canon p g (body.take k)) ∧
     (st1.fs (.rs i)).map (·.data) ≠
       ((build v p { force := true } st1 i).2.fs (.rs i)).map (·.data)) := by
  have hplan : (plan v p cfg st i).2 =
      (FsAct.remove (.rs i) :: reportActs cfg i (p.gen g).reports) ++ writeOut (.rs i) p g body := by
    rw [plan_built hg hneed hu hgen, ht]
    rfl
  have hfs : (applyActs st (headerCrashCut p cfg i g body k)).fs (.rs i) =
      some ⟨canon p g (body.take k),
        (applyActs st (FsAct.remove (.rs i) :: reportActs cfg i (p.gen g).reports)).clock⟩ := by
    rw [headerCrashCut, applyActs_append, applyActs_writeOut]
  have hg1 : (applyActs st (headerCrashCut p cfg i g body k)).gr i = some g := by
    rw [applyActs_gr]; exact hg
  refine ⟨?_, ?_, ?_, ?_⟩
  · rw [hplan]
    refine CrashPrefix.append_left _ ?_
    exact .cons _ (.cons _ (.cons _ (.partialWrite _ _ _ _)))
  · exact untouched_when_current hp v _ i g _ _ hg1 hfs
  · rw [hfs]; rfl
  · rw [forced_build_output (Variant.sound_of_not_tmp ht) { force := true } _ i g hg1 rfl hu, hgen, hfs]
    intro e
    have := congrArg List.length (List.append_cancel_left (Option.some.inj e))
    rw [List.length_take] at this
    omega

/-- the hypotheses of `header_then_crash` are satisfiable (toy parameters, empty state) -/
example : ∃ st : St, st.gr 0 = some [0x41] ∧ validUtf8 [0x41] = true ∧
    (toy.gen [0x41]).result = .ok [0x41] ∧
    needsRebuild Variant.old toy [0x41] ((st.fs (.rs 0)).map (·.data)) = .ok true :=
  ⟨St.init (fun _ => some [0x41]), rfl, by decide, rfl, rfl⟩

end LalrpopModel.Build
