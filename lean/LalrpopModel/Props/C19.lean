import LalrpopModel.Lemmas.TyInferMain
import LalrpopModel.Lemmas.SymVariant
/-!
C19 — accepted grammars compile: inferred types agree with the generated code.

Two mechanisms are modelled and proved about:

* `Model/SymVariant.lean` — the `__Symbol` enum (one variant per distinct symbol type);
* `Model/TyInfer.lean`   — `tyinfer::nonterminal_type` (memo table, stack, swallowed alternative
  errors, default-action type rules, macro byproduct annotations as templates with holes).

The specification side is `altTyP env memo alt`: the type of the value the *default action* of an
alternative builds, given the final nonterminal types `memo` — unit for no selected symbol, the
single selected symbol's type, or the tuple of the selected symbols' types.  The generated action
function `fn __actionN(..) -> <type of the nonterminal> { (__0, __1, ..) }` compiles only if that
type is the nonterminal's type.

FULL STATEMENT (not provable without the final re-check, `recheck = false` — see
`witness_accepts_ill_typed`):
  if `infer` succeeds then for every un-annotated nonterminal every alternative with a default
  action has `altTyP = type of the nonterminal`.
It is proved (a) under the hypothesis that no alternative error was swallowed
(`inferred_type_consistent_partial`; per nonterminal: `inferred_type_consistent_of_not_suppressed`),
and (b) unconditionally for `recheck = true`
(`inferred_type_consistent_with_recheck`).

Residue: Rust's type system itself (what rustc accepts) is not modelled; types are compared as
`TypeRepr`s, as lalrpop does.
-/
namespace LalrpopModel

namespace SymVariant
variable {Ty : Type} [DecidableEq Ty]

/-- **One variant per distinct type.**  For the symbol types `symTys` (terminals then nonterminals):
every symbol has a variant; the payload type of that variant is the symbol's type; and two symbols
share a variant iff their types are equal. -/
theorem variant_per_type_injective (symTys : List Ty) :
    (variantNames symTys).length = symTys.length ∧ (variants symTys).Nodup ∧
    ∀ i j (hi : i < symTys.length) (hj : j < symTys.length),
      ∃ ni nj, (variantNames symTys)[i]? = some ni ∧ (variantNames symTys)[j]? = some nj ∧
        (variants symTys)[ni]? = some symTys[i] ∧
        (ni = nj ↔ symTys[i] = symTys[j]) := by
  have hlen : (variantNames symTys).length = symTys.length := assign_length symTys []
  refine ⟨hlen, assign_nodup symTys [] List.nodup_nil, fun i j hi hj => ?_⟩
  have hni := List.getElem?_eq_getElem (Nat.lt_of_lt_of_eq hi hlen.symm)
  have hnj := List.getElem?_eq_getElem (Nat.lt_of_lt_of_eq hj hlen.symm)
  -- a name is the position of its type, and the type is what stands at that position
  have hpi := (assign_getElem? (vs := []) (List.getElem?_eq_getElem hi)).symm.trans hni
  have hpj := (assign_getElem? (vs := []) (List.getElem?_eq_getElem hj)).symm.trans hnj
  exact ⟨_, _, hni, hnj, pos_some hpi, pos_eq_iff hpi hpj⟩

/-- **`__pop_VariantN` matches what `push` wrote.**  A value pushed for symbol `i` is returned by the
pop generated for a production position holding symbol `j` iff the two symbols have the same type
(in particular always for `i = j`); otherwise it is the `symbol type mismatch` panic. -/
theorem pop_matches_push (symTys : List Ty) (i j : Nat) (hi : i < symTys.length) (hj : j < symTys.length)
    (v : Val Ty) :
    ∃ s nj, push (variantNames symTys) i v = some s ∧ (variantNames symTys)[j]? = some nj ∧
      (popVariant nj s = some v ↔ symTys[i] = symTys[j]) ∧
      (popVariant nj s = none ↔ symTys[i] ≠ symTys[j]) := by
  obtain ⟨_, _, h⟩ := variant_per_type_injective symTys
  obtain ⟨ni, nj, hni, hnj, _, hiff⟩ := h i j hi hj
  refine ⟨⟨ni, v⟩, nj, ?_, hnj, popVariant_eq_some.trans hiff,
    popVariant_eq_none.trans (not_congr hiff)⟩
  rw [push, hni]
  rfl

end SymVariant

namespace TyInfer
variable {Ty Tpl : Type} [DecidableEq Ty] (env : Env Ty Tpl) (G : Grammar Tpl)

/-- Per nonterminal, and for either value of `recheck`: an un-annotated
nonterminal none of whose alternatives had its error swallowed has its type in every alternative
without user action code. -/
theorem inferred_type_consistent_of_not_suppressed (recheck : Bool) (fuel : Nat)
    (order : List String) (memo : List (String × Ty)) (s : St Ty)
    (h : infer env G recheck fuel order = (.ok memo, s)) :
    ∀ nt : Nt Tpl, G.find nt.name = some nt → nt.decl = none → ∀ ty, memo.lookup nt.name = some ty →
      (∀ i, (nt.name, i) ∉ s.suppressed) →
      ∀ alt ∈ nt.alts, alt.act ≠ .user → altTyP env memo alt = .ok ty := by
  have hs : Step env G St.init s ∧ memo = s.memo := by
    revert h
    fun_cases infer env G recheck fuel order with
    | case1 e s1 h1 => intro h; cases h
    | case2 s1 h1 _ e s2 h2 => intro h; cases h
    | case3 s1 h1 _ s2 h2 =>
      intro h; cases h; exact ⟨(inferLoop_step h1).trans (recheckLoop_step h2), rfl⟩
    | case4 s1 h1 _ => intro h; cases h; exact ⟨inferLoop_step h1, rfl⟩
  rw [hs.2]
  exact (hs.1.good Good.init).agree

/-- **Inferred types are consistent — as long as no alternative error was swallowed.**
If `infer_types` (`recheck = false`) succeeds with table `memo` and its ghost log of
swallowed errors of action-less alternatives is empty, then for every un-annotated nonterminal
with type `ty`, every alternative without user action code has default-action type `ty`
(in particular: whenever the specification can type an alternative at all, it gets `ty`). -/
theorem inferred_type_consistent_partial (fuel : Nat) (order : List String)
    (memo : List (String × Ty)) (s : St Ty)
    (h : infer env G false fuel order = (.ok memo, s)) (h0 : s.suppressed = []) :
    ∀ nt : Nt Tpl, G.find nt.name = some nt → nt.decl = none → ∀ ty, memo.lookup nt.name = some ty →
      ∀ alt ∈ nt.alts,
        (alt.act ≠ .user → altTyP env memo alt = .ok ty) ∧ (∀ t, altTyP env memo alt = .ok t → t = ty) := by
  intro nt hf hd ty hl alt hma
  have key : alt.act ≠ .user → altTyP env memo alt = .ok ty :=
    inferred_type_consistent_of_not_suppressed env G false fuel order memo s h nt hf hd ty hl
      (fun i => by rw [h0]; exact List.not_mem_nil) alt hma
  refine ⟨key, fun t ht => ?_⟩
  by_cases hu : alt.act = .user
  · rw [altTyP_user hu] at ht; cases ht
  · rw [key hu] at ht; cases ht; rfl

/-- **With `recheck = true` the full statement holds.**  If `infer_types` with the final re-check
succeeds (and `order` covers the grammar's nonterminals, as `nonterminals.keys()` does), then for
every un-annotated nonterminal, every alternative whose default-action type the specification can
compute has exactly the nonterminal's type — no side condition on swallowed errors. -/
theorem inferred_type_consistent_with_recheck (fuel : Nat) (order : List String)
    (hcover : ∀ nt ∈ G.nts, nt.name ∈ order)
    (memo : List (String × Ty)) (s : St Ty)
    (h : infer env G true fuel order = (.ok memo, s)) :
    ∀ nt : Nt Tpl, G.find nt.name = some nt → nt.decl = none → ∀ ty, memo.lookup nt.name = some ty →
      ∀ alt ∈ nt.alts, ∀ t, altTyP env memo alt = .ok t → t = ty := by
  revert h
  fun_cases infer env G true fuel order with
  | case1 e s1 h1 => intro h; cases h
  | case2 s1 h1 _ e s2 h2 => intro h; cases h
  | case4 s1 h1 hrc => exact absurd rfl hrc
  | case3 s1 h1 _ s2 h2 =>
    intro h
    cases h
    intro nt hf hd ty hl alt hma t ht
    have hin : nt.name ∈ order := hcover nt (find_mem hf)
    have g2 := recheckLoop_step h2
    -- every key of the final table was already typed when the re-check started
    have hM : Ext s.memo s1.memo := by
      intro k v hk
      obtain ⟨ntk, hfk⟩ := Option.isSome_iff_exists.mp
        (((inferLoop_step h1).trans g2).good Good.init |>.keys k v hk)
      obtain ⟨v', hv'⟩ := inferLoop_ok h1 k (find_name hfk ▸ hcover ntk (find_mem hfk))
      have := g2.ext k v' hv'
      rw [hk] at this
      cases this
      exact hv'
    exact recheckLoop_spec (inferLoop_fuel_pos h1 hin) hM h2 nt.name hin nt hf hd ty hl alt hma t ht

/-! ### why the hypothesis is needed: the witness `pub A = { "a" A, "x" };` -/

/-- types as printed text, for the examples -/
def strEnv : Env String String where
  tuple ts := "(" ++ ", ".intercalate ts ++ ")"
  untuple _ := none
  subst tpl _ := tpl
  termTy _ := "&'input str"
  locTy := some "usize"
  errorTy := "ErrorRecovery"

/-- `pub A = { "a" A, "x" };` -/
def witness : Grammar String :=
  ⟨[{ name := "A", decl := none,
      alts := [⟨.default, [.term "\"a\"", .nt "A"]⟩, ⟨.default, [.term "\"x\""]⟩] }]⟩

/-- The model (like lalrpop) accepts the witness with `A: &'input str`: alternative 1 fails on the
cycle, the error is swallowed (logged in the ghost field) — but the default action of alternative 1
builds a pair, so the generated `__action` does not type-check (reproduced with rustc: E0308). -/
theorem witness_accepts_ill_typed :
    okOf (infer strEnv witness false 10 ["A"]).1 = some [("A", "&'input str")] ∧
    (infer strEnv witness false 10 ["A"]).2.suppressed = [("A", 0)] ∧
    okOf (altTyP strEnv [("A", "&'input str")] ⟨.default, [.term "\"a\"", .nt "A"]⟩)
      = some "(&'input str, &'input str)" := by
  refine ⟨by decide +kernel, by decide +kernel, by decide +kernel⟩

/-- … and with `recheck = true` it is rejected -/
theorem witness_rejected_with_recheck :
    errOf (infer strEnv witness true 10 ["A"]).1 = some (.recheck "A" 0) := by decide +kernel

/-- the hypotheses of `inferred_type_consistent_partial` are satisfiable: a well-typed grammar
    `A = { "a" B, "x" "y" }; B = "b";` is accepted with nothing suppressed -/
example :
    let G : Grammar String := ⟨[
      { name := "A", decl := none, alts := [⟨.default, [.term "a", .nt "B"]⟩, ⟨.default, [.term "x", .term "y"]⟩] },
      { name := "B", decl := none, alts := [⟨.default, [.term "b"]⟩] }]⟩
    okOf (infer strEnv G false 10 ["A", "B"]).1 = some [("A", "(&'input str, &'input str)"), ("B", "&'input str")] ∧
    (infer strEnv G false 10 ["A", "B"]).2.suppressed = [] := by
  refine ⟨by decide +kernel, by decide +kernel⟩

end TyInfer
end LalrpopModel
