import LalrpopModel.Props.LRSoundThms
import LalrpopModel.Props.LRCompleteThms
/-!
C01 — generated parsers accept exactly the language of the start symbol.

For EVERY grammar `G`, tables `T`, exported automaton `A` and annotation `ann` that pass the
executable validator (`validate G T A ann = true`; run by the check on every automaton the real
lalrpop builds, with each of its three construction algorithms), and for EVERY token sequence:
the model of `Parser::drive` returns `Ok` iff the token kinds are derivable from the start symbol.
-/
namespace LalrpopModel.LR

theorem validate_split {G : Grammar} {T : Tables} {A : Automaton} {ann : Ann}
    (h : validate G T A ann = true) :
    validateSound G T A = true ∧ validateComplete G T A ann = true := by
  simpa [validate, Bool.and_eq_true] using h

/-- kinds of a token list are terminal indices of the table -/
def KindsInRange (T : Tables) (toks : List Tok) : Prop :=
  ∀ t ∈ toks, ∀ k, t.kind = some k → k < T.nTerm

theorem inRange_of_kinds {T : Tables} {toks : List Tok} (h : KindsInRange T toks) :
    InRange T (toks.map Item.tok) := by
  intro t k hm hk
  obtain ⟨t', ht', he⟩ := List.mem_map.mp hm
  cases he
  exact h t ht' k hk

/-- **C01.** For validated tables without error recovery, any action-failure setting that lets no
    action fail, any start location and any token list with in-range kinds:
    `parse` returns `Ok` exactly when the kinds form a sentence of the start symbol `S`. -/
theorem accepts_iff_derives {G : Grammar} {T : Tables} {A : Automaton} {ann : Ann}
    (h : validate G T A ann = true) (hrec : T.usesRecovery = false)
    {S : NT} (hS : G.startSym = some S) (toks : List Tok) (hin : KindsInRange T toks)
    (failAt : Option Nat) (hf : NoFail T failAt) (startLoc : Int) :
    (∃ c v, Returns T failAt startLoc (toks.map Item.tok) c (.ok v)) ↔
      ∃ w : List Term, toks.map (·.kind) = w.map some ∧ Derives G S w := by
  obtain ⟨hs, hc⟩ := validate_split h
  constructor
  · rintro ⟨c, v, hr⟩
    obtain ⟨w, hw, hd⟩ := ok_implies_derives hs (inRange_of_kinds hin) hrec hS hr
    refine ⟨w, ?_, hd⟩
    simpa [List.map_map, Function.comp_def, itemKind] using hw
  · rintro ⟨w, hw, hd⟩
    obtain ⟨c, v, hr, _⟩ := derives_implies_ok hc S hS w hd toks hw failAt hf startLoc
    exact ⟨c, v, hr⟩

/-- the accepted value is a derivation tree of `S` over exactly the given tokens -/
theorem accepted_value_is_derivation {G : Grammar} {T : Tables} {A : Automaton}
    (hs : validateSound G T A = true) (hrec : T.usesRecovery = false)
    {S : NT} (hS : G.startSym = some S) (toks : List Tok) (hin : KindsInRange T toks)
    {failAt : Option Nat} {startLoc : Int} {c : Cfg} {v : Tree}
    (hr : Returns T failAt startLoc (toks.map Item.tok) c (.ok v)) :
    Tree.WF G (errT T) v ∧ v.root G (errT T) = some (Sym.n S) ∧ v.yield = toks := by
  have hi := inRange_of_kinds hin
  obtain ⟨hwf, hroot⟩ := drive_sound hs hi hS hr
  obtain ⟨hy, _⟩ := drive_yield hs hi hrec hr
  have := congrArg itemToks hy
  rw [itemToks_map_tok, itemToks_map_tok] at this
  exact ⟨hwf, hroot, this.symm⟩

end LalrpopModel.LR
