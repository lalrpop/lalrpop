import LalrpopModel.Lemmas.Reent
/-!
C27 — generated parsers are reentrant and safe to share across threads.

Model: `Model/Reent.lean`.  A parser value (tables + `MatcherBuilder`) is the *shared component*;
every `parse` call owns its driver configuration (`Cfg × Phase` of `Model/LR/Driver.lean`) and its
`Matcher` (text, `consumed`, lazy-DFA cache).  A *schedule* is any finite list of run indices: the
order in which the small steps of the N concurrent calls happen.

What the theorems say: under the hypothesis that a step never writes the shared component
(`ReadOnly`; discharged for the extracted source facts in `Gen/ParserStruct.lean`), every
schedule — any interleaving, any length — leaves each run exactly where it would be had it taken
its steps alone on a fresh parser, and leaves the parser value unchanged.

Residue (not expressible here): the model's steps are atomic, so it cannot exhibit a data race;
that `&self` access to `regex_automata::hybrid::dfa::DFA` is race-free (`DFA: Sync`) is trusted,
as is Rust's guarantee that code without `unsafe`/interior mutability cannot write through `&`.
-/
namespace LalrpopModel.Reent

variable {S P : Type}

/-! ### generic -/

/-- **Every interleaving equals the sequential runs.**  If steps only read the shared component,
then after *any* schedule the shared component is unchanged and run `i` is in the state it reaches
by taking `count i sched` steps alone. -/
theorem interleaving_equals_sequential (pg : Prog S P) (h : ReadOnly pg) (w : World S P) (sched : List Nat) :
    exec pg w sched = { shared := w.shared, runs := sequentialRuns pg w.shared w.runs sched } := by
  induction sched generalizing w with
  | nil =>
    show w = _
    rw [sequentialRuns_nil]
  | cons i rest ih => rw [exec, ih, stepRun_shared pg h, sequentialRuns_stepRun]

/-- two schedules that give every run the same number of steps end in the same world -/
theorem interleaving_schedule_independent (pg : Prog S P) (h : ReadOnly pg) (w : World S P)
    (s1 s2 : List Nat) (hc : ∀ i, s1.count i = s2.count i) : exec pg w s1 = exec pg w s2 := by
  rw [interleaving_equals_sequential pg h, interleaving_equals_sequential pg h]
  simp only [sequentialRuns, hc]

/-- in particular every interleaving equals the sequential execution "run 0 to the end, then run 1, …" -/
theorem interleaving_equals_seqSched (pg : Prog S P) (h : ReadOnly pg) (w : World S P) (sched : List Nat)
    (ns : List Nat) (hns : ∀ i, ns.getD i 0 = sched.count i) :
    exec pg w sched = exec pg w (seqSched ns) := by
  apply interleaving_schedule_independent pg h
  intro i; rw [count_seqSched, hns]

/-- **Complete interleavings yield the sequential results.**  If run `i`, alone, reaches a state
`q` in `n` steps and `q` is final (the step leaves it unchanged), then in every schedule that gives
run `i` at least `n` steps, run `i` ends in `q` — whatever the other runs do in between. -/
theorem complete_interleaving_result (pg : Prog S P) (h : ReadOnly pg) (w : World S P) (sched : List Nat)
    (i : Nat) (p q : P) (n : Nat) (hp : w.runs[i]? = some p)
    (hq : iter (pg.localStep w.shared) n p = q) (hfix : pg.localStep w.shared q = q)
    (hn : n ≤ sched.count i) :
    (exec pg w sched).runs[i]? = some q := by
  rw [interleaving_equals_sequential pg h, sequentialRuns_getElem?, hp]
  obtain ⟨k, hk⟩ := Nat.exists_eq_add_of_le hn
  simp only [Option.map_some]
  rw [hk, iter_add, hq, iter_fixed _ _ hfix]

/-! ### write sets and the extracted facts -/

/-- a program that may write no shared location is read-only -/
theorem readOnly_of_no_writable {L V : Type} [DecidableEq L] (cp : CapProg L V P) :
    ReadOnly (cp.toProg []) := by
  intro s p
  have : (cp.act s p).2.filter (fun w => decide (w.1 ∈ ([] : List L))) = [] :=
    List.filter_eq_nil_iff.mpr fun _ _ => by simp
  simp only [CapProg.toProg, this, applyWrites]

/-- writes outside `W` never show: the part of the store outside `W` is read-only for every step -/
theorem toProg_frame {L V : Type} [DecidableEq L] (cp : CapProg L V P) (W : List L) (s : L → V) (p : P)
    (x : L) (hx : x ∉ W) : ((cp.toProg W).step s p).1 x = s x := by
  simp only [CapProg.toProg]
  apply applyWrites_frame
  intro w hw
  simp only [List.mem_filter, decide_eq_true_eq] at hw
  intro e; apply hx; rw [← e]; exact hw.2

/-- the Boolean check of the extracted facts means: no module has a writable shared location -/
theorem facts_no_writable (ms : List ModuleFacts) (h : noSharedMutableState ms = true) :
    ∀ m ∈ ms, m.writable = [] := by
  intro m hm
  simp only [noSharedMutableState, List.all_eq_true, Bool.and_eq_true] at h
  have := (h m hm).1
  simpa [List.isEmpty_iff] using this

/-- **The general theorem with "no shared mutable state" as its hypothesis**: for source facts that
pass the check, a program whose shared writes are confined to the locations those facts make
writable behaves, under every interleaving, like the sequential runs. -/
theorem no_shared_mutable_state_interleaving {V : Type} (ms : List ModuleFacts)
    (h : noSharedMutableState ms = true) (m : ModuleFacts) (hm : m ∈ ms)
    (cp : CapProg String V P) (w : World (String → V) P) (sched : List Nat) :
    exec (cp.toProg m.writable) w sched =
      { shared := w.shared, runs := sequentialRuns (cp.toProg m.writable) w.shared w.runs sched } := by
  rw [facts_no_writable ms h m hm]
  exact interleaving_equals_sequential _ (readOnly_of_no_writable cp) w sched

/-- the hypothesis is needed: with a shared counter that every step increments and copies, two
schedules with the same step counts end differently -/
example : ∃ (pg : Prog Nat Nat) (w : World Nat Nat) (s1 s2 : List Nat),
    (∀ i, s1.count i = s2.count i) ∧ (exec pg w s1).runs ≠ (exec pg w s2).runs :=
  ⟨⟨fun s _ => (s + 1, s)⟩, ⟨0, [0, 0]⟩, [0, 1], [1, 0],
    fun i => (List.Perm.swap 1 0 []).count_eq i, by decide⟩

/-- and it is satisfiable: a step that only touches private state -/
example : ReadOnly (⟨fun s p => (s, p + s)⟩ : Prog Nat Nat) := fun _ _ => rfl

/-! ### the LR driver: `parse` -/

/-- **parse is pure.**  Use a parser value in any way (any runs `others`, any schedule `hist`), then
start a new `parse` call on it: its outcome after `n` steps is `parseWith s … input n`, a function
of the shared component and the call's own arguments only. -/
theorem parse_pure (s : LRShared) (others : List LRRun) (hist : List Nat)
    (failAt : Option Nat) (startLoc : Int) (input : List LR.Item) (n : Nat) :
    let w' := exec lrProg ⟨s, others⟩ hist
    let k := w'.runs.length
    ((exec lrProg ⟨w'.shared, w'.runs ++ [lrStart failAt startLoc input]⟩ (List.replicate n k)).runs[k]?).bind lrOutcome
      = parseWith s failAt startLoc input n := by
  intro w' k
  have hw' : w'.shared = s := congrArg World.shared (interleaving_equals_sequential lrProg lrProg_readOnly ⟨s, others⟩ hist)
  rw [interleaving_equals_sequential lrProg lrProg_readOnly, sequentialRuns_getElem?]
  simp only [hw', k, List.getElem?_append_right (Nat.le_refl _), Nat.sub_self, List.getElem?_cons_zero,
    Option.map_some, Option.bind_some, List.count_replicate_self, parseWith]

/-- the outcome does not depend on how long one waits: once `parse` has returned `r`, more steps
change nothing (so `parseWith` defines at most one result per input) -/
theorem parse_fuel_monotone (s : LRShared) (failAt : Option Nat) (startLoc : Int) (input : List LR.Item)
    (n m : Nat) (r : LR.Outcome) (h : parseWith s failAt startLoc input n = some r) (hm : n ≤ m) :
    parseWith s failAt startLoc input m = some r := by
  obtain ⟨k, rfl⟩ := Nat.exists_eq_add_of_le hm
  unfold parseWith at *
  rw [iter_add, iter_fixed _ _ (lr_done_fixed s _ r h)]
  exact h

theorem parse_result_unique (s : LRShared) (failAt : Option Nat) (startLoc : Int) (input : List LR.Item)
    (n m : Nat) (r r' : LR.Outcome) (h : parseWith s failAt startLoc input n = some r)
    (h' : parseWith s failAt startLoc input m = some r') : r = r' := by
  rcases Nat.le_total n m with hle | hle
  · have := parse_fuel_monotone s failAt startLoc input n m r h hle
    rw [this] at h'; cases h'; rfl
  · have := parse_fuel_monotone s failAt startLoc input m n r' h' hle
    rw [this] at h; cases h; rfl

/-- **N concurrent `parse` calls on one parser value** (the driver model's real `step`): after any
interleaving of their steps the tables are untouched and call `i` is where `count i sched` steps of
`LR.step` take it from its own initial configuration. -/
theorem lr_interleaving_equals_sequential (s : LRShared) (calls : List LRRun) (sched : List Nat) :
    exec lrProg ⟨s, calls⟩ sched = ⟨s, sequentialRuns lrProg s calls sched⟩ :=
  interleaving_equals_sequential lrProg lrProg_readOnly ⟨s, calls⟩ sched

/-- … and if call `i` parses `input` and, alone on a fresh parser, returns `r` within `n` steps, then
in every interleaving that lets it run for at least `n` steps it has returned `r`. -/
theorem lr_concurrent_result_eq_fresh (s : LRShared) (calls : List LRRun) (sched : List Nat) (i : Nat)
    (failAt : Option Nat) (startLoc : Int) (input : List LR.Item) (n : Nat) (r : LR.Outcome)
    (hi : calls[i]? = some (lrStart failAt startLoc input))
    (hr : parseWith s failAt startLoc input n = some r) (hn : n ≤ sched.count i) :
    ((exec lrProg ⟨s, calls⟩ sched).runs[i]?).bind lrOutcome = some r := by
  have hfix := lr_done_fixed s _ r hr
  rw [complete_interleaving_result lrProg lrProg_readOnly ⟨s, calls⟩ sched i _ _ n hi rfl hfix hn]
  exact hr

/-! ### the built-in lexer: matchers -/

section Lexer
variable {α : Type} [DecidableEq α]

theorem lexProg_readOnly : ReadOnly (lexProg : Prog (Builder α) (Matcher α)) := fun _ _ => rfl

/-- one `next()` call over a cache that only holds answers of the builder's DFA returns what the
cache-free `Matcher::next` of M-LEX returns: the content of the cache is unobservable -/
theorem cache_unobservable (b : Builder α) (st : Lex.St α) (c : Cache α) (hc : c.Consistent b.dfa) :
    (nextC b.dfa b.skip st c).1 = (Lex.next b.dfa b.skip st).1 ∧
      (nextC b.dfa b.skip st c).2.1 = (Lex.next b.dfa b.skip st).2 :=
  ⟨(nextC_spec _ _ _ _ hc).1, (nextC_spec _ _ _ _ hc).2.1⟩

/-- **Matcher state is local.**  Create one matcher per text from the same builder (each gets its own
empty cache) and interleave their `next()` calls in any way: the builder is unchanged, and matcher
`i` has returned exactly the items, and is at exactly the position, that `count i sched` calls of the
cache-free `Lex.next` give for its text alone; its cache still only holds answers of the builder's DFA. -/
theorem matcher_state_is_local (b : Builder α) (texts : List (List α)) (sched : List Nat) :
    let w := exec lexProg ⟨b, texts.map b.matcher⟩ sched
    w.shared = b ∧
    ∀ i text, texts[i]? = some text →
      ∃ m, w.runs[i]? = some m ∧ (m.st, m.out) = lexRef b (sched.count i) (Lex.init text) [] ∧
        m.cache.Consistent b.dfa := by
  intro w
  have hw : w = ⟨b, sequentialRuns lexProg b (texts.map b.matcher) sched⟩ :=
    interleaving_equals_sequential lexProg lexProg_readOnly _ sched
  refine ⟨by rw [hw], ?_⟩
  intro i text hi
  have hspec := lex_iter_spec b (sched.count i) (b.matcher text) (empty_consistent b.dfa)
  refine ⟨iter (lexProg.localStep b) (sched.count i) (b.matcher text), ?_, hspec.1, hspec.2⟩
  rw [hw, sequentialRuns_getElem?, List.getElem?_map, hi]
  rfl

end Lexer

end LalrpopModel.Reent
