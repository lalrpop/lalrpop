import LalrpopModel.Lemmas.HashOrder
import LalrpopModel.Gen.HashOps
/-!
C20 — code generation is deterministic: independence of hash iteration order.

* `lookup_only_program_order_independent`: any program over the abstract hash container that never
  uses an order-exposing operation computes the same result for EVERY pair of order parameters
  (placement of new entries, arbitrary rearrangement after each mutation).
* `Gen/HashOps.lean` (regenerated from `/repo/lalrpop/src` by `checks/c20.py` on every run) lists
  every use of every `HashMap`/`HashSet`-typed binding with file and line;
  `all_ops_lookup_only` (there, by `decide` over that finite table) says that each use is in the
  lookup-only vocabulary or is the single reviewed exception.  That a call site whose method is
  `Meth.lookupOnly` is a step of a `Prog.LookupOnly` program is how the vocabulary is read
  (`Model/HashOrder.lean`, on `Meth`): it is trusted, not a theorem.
* `order_safe_program_order_independent`: the same for the larger class `Prog.OrderSafe`, where iteration is
  allowed when its continuation is invariant under permutations of the entries (collect-then-sort, count, sum);
  `Prog.LookupOnly.orderSafe` shows the class contains the lookup-only programs.
* The exception (`tyinfer::infer_types` iterates `self.nonterminals.keys()`):
  `infer_order_independent_partial`.
-/

namespace LalrpopModel.HashOrder

variable {K V R : Type} [DecidableEq K]

/-- same entries, distinct keys -/
def Sim (m₁ m₂ : List (K × V)) : Prop := m₁.Perm m₂ ∧ (m₁.map (·.1)).Nodup

theorem Sim.nodup_right {m₁ m₂ : List (K × V)} (h : Sim m₁ m₂) : (m₂.map (·.1)).Nodup :=
  (h.1.map (·.1)).nodup_iff.mp h.2

omit [DecidableEq K] in
theorem Sim.congr {a b a' b' : List (K × V)} (h : Sim a b) (ha : a'.Perm a) (hb : b'.Perm b) : Sim a' b' :=
  ⟨ha.trans (h.1.trans hb.symm), (ha.map (·.1)).nodup_iff.mpr h.2⟩

theorem lookup_sim {m₁ m₂ : List (K × V)} (h : Sim m₁ m₂) (k : K) : lookup m₁ k = lookup m₂ k := by
  have hl : (entriesOf m₁ k).length ≤ 1 := entriesOf_length m₁ k ▸ List.nodup_iff_count.mp h.2 k
  have hp : (entriesOf m₁ k).Perm (entriesOf m₂ k) := h.1.filter _
  rw [lookup, hp.eq_of_length_le_one hl, lookup]

theorem insert_sim (o₁ o₂ : OrderParam K V) (h₁ : o₁.Valid) (h₂ : o₂.Valid) {m₁ m₂ : List (K × V)}
    (h : Sim m₁ m₂) (k : K) (v : V) :
    (hmInsert o₁ m₁ k v).1 = (hmInsert o₂ m₂ k v).1 ∧ Sim (hmInsert o₁ m₁ k v).2 (hmInsert o₂ m₂ k v).2 := by
  unfold hmInsert
  rw [← lookup_sim h k]
  cases hl : lookup m₁ k with
  | some old =>
    have hkeys : ((m₁.map fun p => if p.1 = k then (k, v) else p).map (·.1)) = m₁.map (·.1) := by
      rw [List.map_map]
      refine List.map_congr_left fun p _ => ?_
      by_cases hp : p.1 = k <;> simp [hp]
    exact ⟨rfl, Sim.congr ⟨h.1.map _, hkeys ▸ h.2⟩ (h₁ _) (h₂ _)⟩
  | none =>
    have hnd : (((k, v) :: m₁).map (·.1)).Nodup := List.nodup_cons.mpr ⟨(lookup_none_iff m₁ k).mp hl, h.2⟩
    exact ⟨rfl, Sim.congr ⟨h.1.cons _, hnd⟩ ((h₁ _).trans (insertAt_perm ..)) ((h₂ _).trans (insertAt_perm ..))⟩

theorem remove_sim (o₁ o₂ : OrderParam K V) (h₁ : o₁.Valid) (h₂ : o₂.Valid) {m₁ m₂ : List (K × V)}
    (h : Sim m₁ m₂) (k : K) :
    (hmRemove o₁ m₁ k).1 = (hmRemove o₂ m₂ k).1 ∧ Sim (hmRemove o₁ m₁ k).2 (hmRemove o₂ m₂ k).2 :=
  ⟨lookup_sim h k, Sim.congr ⟨h.1.filter _, h.2.sublist (List.filter_sublist.map _)⟩ (h₁ _) (h₂ _)⟩

/-! ### order-safe programs: iteration whose consumer is permutation-invariant -/

/-- the program may look at the internal order, but only through continuations that give the same
    program for any two permutations of the entries (e.g. `keys().collect()` followed by `sort()`,
    `iter().count()`, `values().sum()`, building a `BTreeMap` from the entries) -/
def Prog.OrderSafe : Prog K V R → Prop
  | .ret _ => True
  | .insert _ _ next => ∀ a, (next a).OrderSafe
  | .get _ next => ∀ a, (next a).OrderSafe
  | .remove _ next => ∀ a, (next a).OrderSafe
  | .len next => ∀ n, (next n).OrderSafe
  | .clear next => next.OrderSafe
  | .iter next => (∀ l l' : List (K × V), l.Perm l' → next l = next l') ∧ ∀ l, (next l).OrderSafe

omit [DecidableEq K] in
theorem Prog.LookupOnly.orderSafe (prog : Prog K V R) (h : prog.LookupOnly) : prog.OrderSafe := by
  induction prog with
  | ret r => trivial
  | insert k v next ih => exact fun a => ih a (h a)
  | get k next ih => exact fun a => ih a (h a)
  | remove k next ih => exact fun a => ih a (h a)
  | len next ih => exact fun a => ih a (h a)
  | clear next ih => exact ih h
  | iter next _ => exact absurd h (by simp [Prog.LookupOnly])

/-- Started on containers with the same entries, an order-safe program returns the same result and
    leaves the same entries under any two order parameters: every method but `iter` answers from
    the set of entries (`lookup_sim`, `insert_sim`, `remove_sim`), and `iter` may hand over the
    entries in either order because `OrderSafe` makes its continuation blind to permutations. -/
theorem order_safe_program_order_independent (o₁ o₂ : OrderParam K V) (h₁ : o₁.Valid) (h₂ : o₂.Valid)
    (prog : Prog K V R) (hl : prog.OrderSafe) (m₁ m₂ : List (K × V)) (h : Sim m₁ m₂) :
    (prog.run o₁ m₁).1 = (prog.run o₂ m₂).1 ∧ Sim (prog.run o₁ m₁).2 (prog.run o₂ m₂).2 := by
  induction prog generalizing m₁ m₂ with
  | ret r => exact ⟨rfl, h⟩
  | insert k v next ih =>
    obtain ⟨e, hs⟩ := insert_sim o₁ o₂ h₁ h₂ h k v
    simp only [Prog.run]
    rw [← e]
    exact ih _ (hl _) _ _ hs
  | get k next ih =>
    simp only [Prog.run]
    rw [← lookup_sim h k]
    exact ih _ (hl _) _ _ h
  | remove k next ih =>
    obtain ⟨e, hs⟩ := remove_sim o₁ o₂ h₁ h₂ h k
    simp only [Prog.run]
    rw [← e]
    exact ih _ (hl _) _ _ hs
  | len next ih =>
    simp only [Prog.run]
    rw [← h.1.length_eq]
    exact ih _ (hl _) _ _ h
  | clear next ih =>
    simp only [Prog.run]
    exact ih hl _ _ ⟨List.Perm.refl _, by simp⟩
  | iter next ih =>
    simp only [Prog.run]
    rw [← hl.1 m₁ m₂ h.1]
    exact ih _ (hl.2 _) _ _ h

/-- A program that uses only `new/insert/get/contains/entry/index/remove/len/clear` (no
    operation exposing the iteration order) returns the same result under any two order
    parameters — whatever the seeds, placements and rehashes — and ends with the same set of
    entries. -/
theorem lookup_only_program_order_independent (o₁ o₂ : OrderParam K V) (h₁ : o₁.Valid) (h₂ : o₂.Valid)
    (prog : Prog K V R) (hl : prog.LookupOnly) (m₁ m₂ : List (K × V)) (h : Sim m₁ m₂) :
    (prog.run o₁ m₁).1 = (prog.run o₂ m₂).1 ∧ Sim (prog.run o₁ m₁).2 (prog.run o₂ m₂).2 :=
  order_safe_program_order_independent o₁ o₂ h₁ h₂ prog (Prog.LookupOnly.orderSafe prog hl) m₁ m₂ h

/-- from the empty container: the result does not depend on the order parameter at all -/
theorem lookup_only_result_independent (o₁ o₂ : OrderParam K V) (h₁ : o₁.Valid) (h₂ : o₂.Valid)
    (prog : Prog K V R) (hl : prog.LookupOnly) : (prog.run o₁ []).1 = (prog.run o₂ []).1 :=
  (lookup_only_program_order_independent o₁ o₂ h₁ h₂ prog hl [] [] ⟨List.Perm.refl _, by simp⟩).1

/-- the hypothesis is needed: a program that iterates can tell two order parameters apart -/
example : ∃ (o₁ o₂ : OrderParam Nat Nat) (prog : Prog Nat Nat (List Nat)),
    o₁.Valid ∧ o₂.Valid ∧ (prog.run o₁ []).1 ≠ (prog.run o₂ []).1 :=
  ⟨⟨fun _ _ => 0, id⟩, ⟨fun l _ => l.length, id⟩,
    .insert 1 1 fun _ => .insert 2 2 fun _ => .iter fun l => .ret (l.map (·.1)),
    fun _ => List.Perm.refl _, fun _ => List.Perm.refl _, by decide⟩

/-- non-vacuity: a program that iterates and only counts is order-safe but not lookup-only -/
example : (Prog.insert 1 1 fun _ => Prog.iter fun l => Prog.ret l.length : Prog Nat Nat Nat).OrderSafe ∧
    ¬ (Prog.insert 1 1 fun _ => Prog.iter fun l => Prog.ret l.length : Prog Nat Nat Nat).LookupOnly := by
  refine ⟨fun _ => ⟨fun l l' hp => by simp only [hp.length_eq], fun _ => trivial⟩, fun h => ?_⟩
  exact h none

/-! ### the exception: `infer_types` visits the nonterminals in hash order -/

variable {Id Ty E : Type}

/-- the table agrees with the "true" type assignment `T` wherever it is defined -/
def Consistent (T : Id → Ty) (t : Id → Option Ty) : Prop := ∀ id ty, t id = some ty → ty = T id

/-- Assume the memoising evaluator (`nonterminal_type`) (a) keeps the table consistent with one
    order-independent assignment `T` (the type of a nonterminal is a function of the grammar),
    (b) defines the requested nonterminal, (c) never
    drops entries and (d) only defines nonterminals of the universe `U`.  Then visiting the
    nonterminals in any two orders `l₁ l₂` that both cover `U`, if both runs succeed, produces the
    same table.  PARTIAL: (a)–(d) are assumptions about `nonterminal_type`, and runs that end in an
    error (where the *reported* error may depend on the order) are not covered.
    Full statement wanted: the same for the real `nonterminal_type`, including equality of the
    reported error. -/
theorem infer_order_independent_partial
    (eval : (Id → Option Ty) → Id → Except E (Id → Option Ty)) (T : Id → Ty) (U : Id → Prop)
    (hcons : ∀ t id t', Consistent T t → eval t id = .ok t' → Consistent T t')
    (hdef : ∀ t id t', eval t id = .ok t' → (t' id).isSome)
    (hmono : ∀ t id t' x, eval t id = .ok t' → (t x).isSome → (t' x).isSome)
    (hdom : ∀ t id t' x, (∀ y, (t y).isSome → U y) → U id → eval t id = .ok t' → (t' x).isSome → U x)
    (l₁ l₂ : List Id) (h₁ : ∀ x, U x ↔ x ∈ l₁) (h₂ : ∀ x, U x ↔ x ∈ l₂)
    (t₁ t₂ : Id → Option Ty)
    (r₁ : evalAll eval (fun _ => none) l₁ = .ok t₁) (r₂ : evalAll eval (fun _ => none) l₂ = .ok t₂) :
    t₁ = t₂ := by
  -- one run: the table stays consistent and inside `U`, and defines what it visited or had before
  have run : ∀ (l : List Id) (t t' : Id → Option Ty), Consistent T t → (∀ y, (t y).isSome → U y) →
      (∀ x ∈ l, U x) → evalAll eval t l = .ok t' →
      Consistent T t' ∧ (∀ y, (t' y).isSome → U y) ∧ ∀ x, x ∈ l ∨ (t x).isSome → (t' x).isSome := by
    intro l t t' hc hd hu hr
    induction l generalizing t with
    | nil =>
      cases hr
      exact ⟨hc, hd, fun x hx => hx.resolve_left List.not_mem_nil⟩
    | cons id ids ih =>
      rw [evalAll] at hr
      cases he : eval t id with
      | error e => rw [he] at hr; cases hr
      | ok tm =>
        rw [he] at hr
        obtain ⟨a, b, c⟩ := ih tm (hcons t id tm hc he)
          (fun y hy => hdom t id tm y hd (hu id List.mem_cons_self) he hy)
          (fun x hx => hu x (List.mem_cons_of_mem _ hx)) hr
        refine ⟨a, b, fun x hx => c x ?_⟩
        rcases hx with hx | hx
        · exact (List.mem_cons.mp hx).elim (fun e => .inr (e ▸ hdef t id tm he)) .inl
        · exact .inr (hmono t id tm x he hx)
  have hc0 : Consistent T (fun _ => (none : Option Ty)) := by intro id ty h; cases h
  have hd0 : ∀ y, ((fun _ => (none : Option Ty)) y).isSome → U y := by intro y h; cases h
  obtain ⟨c1, d1, a1⟩ := run l₁ _ t₁ hc0 hd0 (fun x hx => (h₁ x).mpr hx) r₁
  obtain ⟨c2, d2, a2⟩ := run l₂ _ t₂ hc0 hd0 (fun x hx => (h₂ x).mpr hx) r₂
  -- an entry of one table is in the universe, hence defined in the other, and both are `T x`
  have half : ∀ {t t' : Id → Option Ty}, Consistent T t → Consistent T t' → (∀ y, (t y).isSome → U y) →
      (∀ y, U y → (t' y).isSome) → ∀ x ty, t x = some ty → t' x = some ty := by
    intro t t' c c' d a x ty hx
    obtain ⟨ty', hx'⟩ := Option.isSome_iff_exists.mp (a x (d x (by simp [hx])))
    rw [hx', c x ty hx, c' x ty' hx']
  funext x
  exact Option.ext fun ty => ⟨half c1 c2 d1 (fun y hy => a2 y (.inl ((h₂ y).mp hy))) x ty,
    half c2 c1 d2 (fun y hy => a1 y (.inl ((h₁ y).mp hy))) x ty⟩

end LalrpopModel.HashOrder
