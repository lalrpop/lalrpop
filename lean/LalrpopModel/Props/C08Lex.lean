import LalrpopModel.Props.C09
/-!
C08 (lexer part) — the built-in lexer never keeps yielding empty tokens and always terminates.

`lexer_progress`, `next_iterations_le`, `no_empty_token` are about `Lex.next`, the model of
`Matcher::next` **after the minimal fix** (every zero-length longest match is an `InvalidToken`);
`nextOrig_stuck`, `nextOrig_diverges`, `lexer_empty_token_diverges` are about `Lex.nextOrig`, the
model of the code **as found**, and document the defect (kept on purpose).
-/
namespace LalrpopModel.Lex
variable {α : Type}

/-- every loop iteration but the last consumes at least one byte: one call of `next` performs at
most (bytes it consumed) + 1 iterations — in particular it terminates, whatever the oracle. -/
theorem next_iterations_le (o : Oracle α) (skip : List Bool) (st : St α) :
    nextIters o skip st + (next o skip st).2.text.length ≤ st.text.length + 1 := by
  fun_induction nextIters o skip st with
  | case4 st h len hs hlen hsk ih =>
    -- a skipped match: one more iteration, at least one byte consumed
    have hnext : next o skip st = next o skip (st.advance len) := by
      rw [next, if_neg h, hs]
      simp only [if_neg hlen, hsk]
    rw [hnext, Nat.add_assoc, Nat.add_comm 1]
    exact Nat.succ_le_succ (Nat.le_trans ih
      (St.advance_length_lt (mt List.isEmpty_iff.mpr h) (Nat.pos_of_ne_zero hlen)))
  | _ => rw [Nat.add_comm]; exact Nat.succ_le_succ (next_text_le o skip _)

/-- every token the fixed lexer returns consumes at least one byte and leaves a strictly shorter
remaining text (so a parser that keeps calling `next` cannot loop on empty tokens) -/
theorem token_advances (o : Oracle α) (skip : List Bool) (st : St α) {s i e : Nat} {t : List α}
    {st' : St α} (h : next o skip st = (.tok s i t e, st')) :
    st'.text.length < st.text.length :=
  next_tok_shorter o skip st h

/-- **lexer_progress.**  For every oracle (every set of patterns, empty-matching ones included),
skip vector and input: the token stream of the fixed lexer is finite (`tokens` is a total
function), contains at most `input.length` tokens, and at most one more item (the final error). -/
theorem lexer_progress (o : Oracle α) (hd : DeadSound o) (skip : List Bool) (input : List α) :
    ((tokens o skip (init input)).filter Item.isTok).length ≤ input.length ∧
    (tokens o skip (init input)).length ≤ input.length + 1 :=
  (stream_spec o hd skip (init input)).count

/-- no item of the fixed lexer's stream is a zero-length token -/
theorem no_empty_token (o : Oracle α) (hd : DeadSound o) (skip : List Bool) (input : List α)
    (s i e : Nat) (t : List α) (h : Item.tok s i t e ∈ tokens o skip (init input)) : s < e :=
  (stream_spec o hd skip (init input)).tok_pos h

/-! ### The code as found: a non-skip pattern matching the empty string never makes progress -/

/-- **the defect, in general form.**  In the unfixed `next`, whenever the longest match at the
current position is empty and belongs to a non-skip pattern, the call returns a zero-length
token and leaves the matcher state unchanged. -/
theorem nextOrig_stuck (o : Oracle α) (hd : DeadSound o) (skip : List Bool) (st : St α)
    (hne : st.text ≠ []) (hl : IsLongest o st.text 0)
    (hsk : skip[maxIdx (o.matchSet [])]? = some false) :
    nextOrig o skip st = (.tok st.consumed (maxIdx (o.matchSet [])) [] st.consumed, st) := by
  rw [nextOrig, List.isEmpty_eq_false_iff.mpr hne, scan_eq_some o hd _ _ hl]
  simp only [List.take_zero, hsk]
  rfl

/-- …hence every later call returns the same empty token: the stream never ends. -/
theorem nextOrig_diverges (o : Oracle α) (hd : DeadSound o) (skip : List Bool) (st : St α)
    (hne : st.text ≠ []) (hl : IsLongest o st.text 0)
    (hsk : skip[maxIdx (o.matchSet [])]? = some false) (n : Nat) :
    iterate (nextOrig o skip) n st =
      List.replicate n (.tok st.consumed (maxIdx (o.matchSet [])) [] st.consumed) := by
  induction n with
  | zero => rfl
  | succ n ih =>
    simp only [iterate, nextOrig_stuck o hd skip st hne hl hsk, ih, List.replicate_succ]

/-- the oracle of the single pattern `a*` over the alphabet {a = 0, b = 1, …} -/
def aStar : Oracle Nat where
  matchSet p := if p.all (· == 0) then [0] else []
  dead p := !p.all (· == 0)

theorem aStar_deadSound : DeadSound aStar := by
  intro text i hi hdead k hik hk
  simp only [aStar, Bool.not_eq_eq_eq_not, Bool.not_true] at hdead
  simp only [Oracle.isMatch, aStar]
  have : (text.take k).all (· == 0) = false := by
    have hsplit := (List.take_append_drop (i + 1) (text.take k)).symm
    rw [List.take_take, Nat.min_eq_left (by omega)] at hsplit
    rw [hsplit, List.all_append, hdead]; rfl
  simp [this]

theorem aStar_longest_b : IsLongest aStar [1] 0 := by
  refine ⟨Nat.zero_le _, rfl, fun k hk hm => ?_⟩
  match k, hk with
  | 0, _ => exact Nat.le_refl _
  | 1, _ => cases hm

/-- **lexer_empty_token_diverges.**  There are an oracle with a sound `dead` (the pattern `a*`,
not a skip pattern) and an input (`"b"`) on which the unfixed `Matcher::next` returns the
zero-length token `(0, Token(0, ""), 0)` on every one of any number of successive calls: the
generated parser never terminates (the `S = X*; X = r"a*"` on `"b"` probe). -/
theorem lexer_empty_token_diverges :
    ∃ (o : Oracle Nat) (skip : List Bool) (input : List Nat), DeadSound o ∧
      ∀ n, iterate (nextOrig o skip) n (init input) = List.replicate n (.tok 0 0 [] 0) :=
  ⟨aStar, [false], [1], aStar_deadSound, fun n =>
    nextOrig_diverges aStar aStar_deadSound [false] (init [1]) nofun aStar_longest_b rfl n⟩

/-- the same input through the fixed `next`: one `InvalidToken` at offset 0, then nothing more -/
example : tokens aStar [false] (init [1]) = [.invalid 0] :=
  (stream_spec_unique aStar aStar_deadSound [false] (init [1]) [.invalid 0]
    (.bad _ nofun (.inr aStar_longest_b))).symm

end LalrpopModel.Lex
