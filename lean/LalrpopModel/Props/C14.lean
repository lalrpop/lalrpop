import LalrpopModel.Lemmas.InlineAll
/-!
C14 — inlining a nonterminal preserves language and parse results.

Property theorems about `Model/Inline.lean` (definitions of the semantics: `Lemmas/InlineSem.lean`).

* The grammar is the lowered grammar (`Grammar`): entries in map order, productions with action
  indices, action definitions `user`/`inline`.
* `Derives g ss w`: the symbols `ss` derive the word `w`.  `Eval g sem tv ss w vs`: they do and all
  actions succeed with values `vs`.  `semOf acts I`: meaning of the action functions when user
  action `i` is the arbitrary (possibly failing) function `I i`; an `inline` action means what
  `emit_inline_action_code` generates (`runInline`: temporaries left to right with `?`, then the host).
* `Run g sem tv ss w r`: outcome with errors, actions executed at reductions.

What is *not* true, and stated as counterexamples instead of theorems: equality of the returned
user error (`inline_error_order_counterexample`), and left-to-right order of the actions of
different inlined nonterminals of one production (`inline_order_not_left_to_right`).
-/
set_option linter.unusedSectionVars false

namespace LalrpopModel.Inline

variable {N T X : Type} [DecidableEq N] [DecidableEq T] {E V : Type}

/-- `Inliner::inline` on a host production `into`: it appends to `new_productions` exactly one
    production per choice of an alternative for every occurrence of `inl` (`choices`, leftmost
    occurrence varying slowest — the order of emission), numbered consecutively from
    `action_fn_defns.len() + new_action_fn_defns.len()`, and to `new_action_fn_defns` the matching
    `InlineActionFnDefn`s (fallible iff the host or one of the chosen alternatives is). -/
theorem cross_product_complete (defs : List (Defn N T X)) (inl : N) (inlProds : List (Production N T))
    (into : Production N T) (intoDef : Defn N T X)
    (hInto : defs[into.action]? = some intoDef)
    (hInl : ∀ ip ∈ inlProds, ∃ d, defs[ip.action]? = some d) (out : Out N T X) :
    inlineSyms defs inl inlProds into into.symbols [] 0 out =
      some { prods := out.prods ++
               numbered into [] (defs.length + out.defns.length) (choices inl inlProds into.symbols)
             defns := out.defns ++
               (choices inl inlProds into.symbols).map fun c =>
                 mkDefn intoDef into (fallibleCount defs c) c } :=
  inlineSyms_top defs inl inlProds into intoDef hInto hInl out

/-- the number of new productions is the product of the numbers of alternatives over the
    occurrences -/
theorem choices_length (inl : N) (inlProds : List (Production N T)) (syms : List (Symbol N T)) :
    (choices inl inlProds syms).length =
      inlProds.length ^ (syms.filter (· = Symbol.nt inl)).length := by
  have key : ∀ (l : List (Production N T)) (cs : List (List (InlinedSymbol N T))),
      (l.flatMap fun ip => cs.map (.inlined ip.action ip.symbols :: ·)).length = cs.length * l.length := by
    intro l cs
    induction l with
    | nil => simp
    | cons ip ips ihp =>
      simp only [List.flatMap_cons, List.length_append, List.length_map, ihp, List.length_cons,
        Nat.mul_succ]
      exact Nat.add_comm _ _
  induction syms with
  | nil => simp [choices]
  | cons s rest ih =>
    simp only [choices, List.filter_cons]
    split
    · rename_i h
      simp only [h, decide_true, if_true, List.length_cons, Nat.pow_succ, ← ih, key]
    · rename_i h
      simp [h, ih]

/-- `inline_nt` on a well-formed grammar: no panic; actions are appended; each nonterminal keeps
    its name and attributes; a production without `inl` is kept, a production with `inl` is
    replaced by its expansions (`StepRel.keep/new`), and nothing else appears (`StepRel.back`). -/
theorem inline_nt_productions (g : Grammar N T X) (hwf : WF g) (inl : N) :
    ∃ g' extra, inlineNt g inl = some g' ∧ g'.actions = g.actions ++ extra ∧
      g'.nonterminals.map (·.name) = g.nonterminals.map (·.name) ∧
      ∀ n, StepRel inl (g.productionsFor inl) g.actions.length g'.actions
        (g.productionsFor n) (g'.productionsFor n) := by
  obtain ⟨g', extra, h1, h2, h3⟩ := inlineNt_spec g hwf inl
  exact ⟨g', extra, h1, h2, rel2_names h3, rel2_productionsFor h3⟩

/-- Inlining a nonterminal that does not occur in its own productions does not change what any
    sequence of symbols derives (in particular the language of every nonterminal, the inlined one
    included). -/
theorem inline_language_eq (g : Grammar N T X) (hwf : WF g) (inl : N)
    (hself : ∀ ip ∈ g.productionsFor inl, Symbol.nt inl ∉ ip.symbols)
    (g' : Grammar N T X) (h : inlineNt g inl = some g')
    (ss : List (Symbol N T)) (w : List T) : Derives g ss w ↔ Derives g' ss w :=
  (inlineNt_step hwf hself h).2 ss w

/-- …nor the values, for every interpretation `I` of the user actions (which may fail) and every
    valuation `tv` of the terminals, as long as no action fails: the successful evaluations of the
    two grammars coincide. -/
theorem inline_value_eq_when_no_failure (g : Grammar N T X) (hwf : WF g) (inl : N)
    (hself : ∀ ip ∈ g.productionsFor inl, Symbol.nt inl ∉ ip.symbols)
    (g' : Grammar N T X) (h : inlineNt g inl = some g') (I : Sem E V) (tv : T → V)
    (ss : List (Symbol N T)) (w : List T) (vs : List V) :
    Eval g (semOf g.actions I) tv ss w vs ↔ Eval g' (semOf g'.actions I) tv ss w vs :=
  (inlineNt_step hwf hself h).1 E V I tv ss w vs

/-- The action of every new production is: run the inlined actions on their slices of the
    arguments, left to right (`composeArgs`), then the host action on originals and results. -/
theorem inline_order_spec (g : Grammar N T X) (hwf : WF g) (inl : N) (g' : Grammar N T X)
    (h : inlineNt g inl = some g') (I : Sem E V) (n : N) (p : Production N T)
    (hp : p ∈ g.productionsFor n) (hin : Symbol.nt inl ∈ p.symbols)
    (c : List (InlinedSymbol N T)) (hc : c ∈ choices inl (g.productionsFor inl) p.symbols) :
    ∃ idx, ({ nonterminal := p.nonterminal, symbols := c.flatMap InlinedSymbol.flat, action := idx } :
        Production N T) ∈ g'.productionsFor n ∧
      ∀ args, semOf g'.actions I idx args =
        (composeArgs (semOf g.actions I) c args).bind (semOf g.actions I p.action) := by
  obtain ⟨extra, hacts, hrel⟩ := inlineNt_spec_of_eq hwf h
  obtain ⟨idx, hidx, hmem, hdef⟩ := (rel2_productionsFor hrel n).new p hp hin c hc
  exact ⟨idx, hmem, fun args => semOf_new_action hwf hacts I hp hc hidx hdef args⟩

/-- …where "left to right" means: if the inlined actions before some inlined symbol succeed (on
    their part `preArgs` of the arguments) and its own action fails on its slice, then its error
    is the result: later inlined actions and the host action `host` do not run. -/
theorem inline_order_leftmost_failure (sem : Sem E V) (pre post : List (InlinedSymbol N T))
    (a : Nat) (ss : List (Symbol N T)) (preArgs slice restArgs : List V) (vs : List V) (e : E)
    (hpre : composeArgs sem pre preArgs = .ok vs)
    (hprelen : preArgs.length = (pre.flatMap InlinedSymbol.flat).length)
    (hslice : slice.length = ss.length)
    (hfail : sem a slice = .err e) (host : List V → Res E V) :
    (composeArgs sem (pre ++ .inlined a ss :: post) (preArgs ++ (slice ++ restArgs))).bind host = .err e := by
  rw [composeArgs_append sem hpre hprelen, composeArgs, List.take_left' hslice, hfail]
  rfl

theorem inlineOrder_outcome (g : Grammar N T X) : ∀ {r}, inlineOrder g = r →
    match r with
    | .ok order => order.Nodup ∧ (∀ x, x ∈ order ↔ x ∈ g.inlineNames) ∧
        Topo (neighbors g g.inlineNames) order
    | .error (.cycle c) => ReachP (neighbors g g.inlineNames) c c
    | .error .outOfFuel => False := by
  have h := order_outcome g.inlineNames (neighbors g g.inlineNames) fun _ _ h => (mem_neighbors.mp h).2.1
  intro r hr
  subst hr
  unfold inlineOrder
  split at h
  · rename_i heq
    simp only [heq]
    exact h
  · rename_i heq
    simp only [heq]
    exact h
  · exact h.elim

/-- `inline_order` never exhausts the fuel of the model (the recursion of the Rust code is bounded
    by the number of nodes) -/
theorem inlineOrder_no_outOfFuel (g : Grammar N T X) : inlineOrder g ≠ .error .outOfFuel :=
  fun h => inlineOrder_outcome g h

/-- if `inline_order` succeeds, the order lists every `#[inline]` nonterminal exactly once and
    every inline nonterminal mentioned by `X` comes before `X` -/
theorem inline_order_topological (g : Grammar N T X) (order : List N) (h : inlineOrder g = .ok order) :
    order.Nodup ∧ (∀ x, x ∈ order ↔ x ∈ g.inlineNames) ∧ Topo (neighbors g g.inlineNames) order :=
  inlineOrder_outcome g h

/-- an error names a nonterminal that really is on a cycle of `#[inline]` nonterminals -/
theorem cycle_error_is_cycle (g : Grammar N T X) (c : N) (h : inlineOrder g = .error (.cycle c)) :
    ReachP (neighbors g g.inlineNames) c c :=
  inlineOrder_outcome g h

/-- every cycle among `#[inline]` nonterminals is rejected -/
theorem cycle_rejected (g : Grammar N T X) (x : N) (hx : x ∈ g.inlineNames)
    (hcyc : ReachP (neighbors g g.inlineNames) x x) :
    ∃ c, inlineOrder g = .error (.cycle c) ∧ ReachP (neighbors g g.inlineNames) c c := by
  cases hres : inlineOrder g with
  | ok order =>
    obtain ⟨hnd, hmem, htopo⟩ := inline_order_topological g order hres
    exact absurd hcyc (topo_no_self_reach htopo hnd ((hmem x).mpr hx))
  | error e =>
    cases e with
    | cycle c => exact ⟨c, rfl, cycle_error_is_cycle g c hres⟩
    | outOfFuel => exact absurd hres (inlineOrder_no_outOfFuel g)

/-- Inlining along any order of inline nonterminals none of which reaches itself preserves
    derivations and successful evaluations. -/
theorem inline_all_value_eq (g : Grammar N T X) (hwf : WF g) (hf : Filed g) (order : List N)
    (hord : ∀ x ∈ order, x ∈ g.inlineNames ∧ ¬ ReachP (neighbors g g.inlineNames) x x) :
    ∃ g', inlineAll g order = some g' ∧ WF g' ∧
      (∀ (E V : Type) (I : Sem E V) (tv : T → V) ss w vs,
        Eval g (semOf g.actions I) tv ss w vs ↔ Eval g' (semOf g'.actions I) tv ss w vs) ∧
      (∀ ss w, Derives g ss w ↔ Derives g' ss w) :=
  inlineAll_spec order g hwf (mentions_initial g hf) hord

/-- **`normalize::inline::inline`** on a well-formed grammar either reports a genuine cycle or
    returns a grammar with the same derivations and the same successful evaluations (for all
    interpretations of the user actions); it does not panic. -/
theorem inline_grammar_value_eq (g : Grammar N T X) (hwf : WF g) (hf : Filed g) :
    (∃ c, inlineGrammar g = .error (.cycle c) ∧ ReachP (neighbors g g.inlineNames) c c) ∨
    ∃ g', inlineGrammar g = .ok g' ∧
      (∀ (E V : Type) (I : Sem E V) (tv : T → V) ss w vs,
        Eval g (semOf g.actions I) tv ss w vs ↔ Eval g' (semOf g'.actions I) tv ss w vs) ∧
      (∀ ss w, Derives g ss w ↔ Derives g' ss w) := by
  unfold inlineGrammar
  cases hres : inlineOrder g with
  | error e =>
    cases e with
    | cycle c => exact .inl ⟨c, rfl, cycle_error_is_cycle g c hres⟩
    | outOfFuel => exact absurd hres (inlineOrder_no_outOfFuel g)
  | ok order =>
    obtain ⟨hnd, hmem, htopo⟩ := inline_order_topological g order hres
    obtain ⟨g', h1, _, h2, h3⟩ := inline_all_value_eq g hwf hf order
      (fun x hx => ⟨(hmem x).mp hx, topo_no_self_reach htopo hnd hx⟩)
    exact .inr ⟨g', by simp [h1], h2, h3⟩

section examples

/-- `S = A B; #[inline] A = "0"; B = "1"` with actions 0 (S), 1 (A), 2 (B); names A=0 B=1 S=2 -/
def exG : Grammar Nat Nat Unit :=
  { nonterminals :=
      [ { name := 0, extra := (), isInline := true, productions := [⟨0, [.term 0], 1⟩] },
        { name := 1, extra := (), isInline := false, productions := [⟨1, [.term 1], 2⟩] },
        { name := 2, extra := (), isInline := false, productions := [⟨2, [.nt 0, .nt 1], 0⟩] } ]
    actions := [⟨false, (), .user ()⟩, ⟨true, (), .user ()⟩, ⟨true, (), .user ()⟩] }

/-- the same with `#[inline]` on `B` as well -/
def exG2 : Grammar Nat Nat Unit :=
  { exG with nonterminals := exG.nonterminals.map fun d => { d with isInline := d.name ≠ 2 } }

/-- user actions: S succeeds, A fails with error 1, B fails with error 2 -/
def exI : Sem Nat Unit := fun i _ => if i = 0 then .ok () else .err i

theorem exG_wf : WF exG := ⟨by decide, by decide⟩
theorem exG_filed : Filed exG := by unfold Filed; decide
theorem exG2_wf : WF exG2 := ⟨by decide, by decide⟩
theorem exG2_filed : Filed exG2 := by unfold Filed; decide

example : ∀ ip ∈ exG.productionsFor 0, Symbol.nt 0 ∉ ip.symbols := by decide

/-- the grammar after inlining `A` -/
def exG' : Grammar Nat Nat Unit :=
  { nonterminals :=
      [ { name := 0, extra := (), isInline := true, productions := [⟨0, [.term 0], 1⟩] },
        { name := 1, extra := (), isInline := false, productions := [⟨1, [.term 1], 2⟩] },
        { name := 2, extra := (), isInline := false, productions := [⟨2, [.term 0, .nt 1], 3⟩] } ]
    actions := [⟨false, (), .user ()⟩, ⟨true, (), .user ()⟩, ⟨true, (), .user ()⟩,
                ⟨true, (), .inline 0 [.inlined 1 [.term 0], .original (.nt 1)]⟩] }

theorem exG_inline : inlineNt exG 0 = some exG' := by rfl

/-- **The literal claim about errors fails.**  For `S = A B` with `A`, `B` both failing, every run
    of the original grammar from `S` returns `A`'s error (its reduction comes first), every run of
    the grammar with `A` inlined returns `B`'s error (`A`'s action now runs at the reduction of
    `S`, after `B` was reduced) — and the input `0 1` has such runs. -/
theorem inline_error_order_counterexample :
    WF exG ∧ (∀ ip ∈ exG.productionsFor 0, Symbol.nt 0 ∉ ip.symbols) ∧ inlineNt exG 0 = some exG' ∧
    (∀ w r, Run exG (semOf exG.actions exI) (fun _ => ()) [.nt 2] w r → r = .err 1) ∧
    (∀ w r, Run exG' (semOf exG'.actions exI) (fun _ => ()) [.nt 2] w r → r = .err 2) ∧
    Run exG (semOf exG.actions exI) (fun _ => ()) [.nt 2] [0, 1] (.err 1) ∧
    Run exG' (semOf exG'.actions exI) (fun _ => ()) [.nt 2] [0, 1] (.err 2) := by
  -- `A B` in the original grammar: the only production of `A` is `"0"`, and its action fails
  have hAB : ∀ w r, Run exG (semOf exG.actions exI) (fun _ => ()) [.nt 0, .nt 1] w r → r = .err 1 :=
    fun w r h => run_head_err h fun p hp u rc hc => by
      cases List.mem_singleton.mp hp
      rw [run_single_term hc]
      rfl
  -- `B` in the inlined grammar: likewise
  have hB' : ∀ w r, Run exG' (semOf exG'.actions exI) (fun _ => ()) [.nt 1] w r → r = .err 2 :=
    fun w r h => run_head_err h fun p hp u rc hc => by
      cases List.mem_singleton.mp hp
      rw [run_single_term hc]
      rfl
  refine ⟨exG_wf, by decide, exG_inline, ?_, ?_, ?_, ?_⟩
  · exact fun w r h => run_head_err h fun p hp u rc hc => by
      cases List.mem_singleton.mp hp
      rw [hAB _ _ hc]
      rfl
  · exact fun w r h => run_head_err h fun p hp u rc hc => by
      cases List.mem_singleton.mp hp
      cases hc with
      | term t h' =>
        rw [hB' _ _ h']
        rfl
  · exact Run.ntChildFail 2 ⟨2, [.nt 0, .nt 1], 0⟩ (u := [0, 1]) (w := []) (.head _)
      (Run.ntActionFail 0 ⟨0, [.term 0], 1⟩ (u := [0]) (w := [1]) (args := [()]) (.head _)
        (Run.term 0 Run.nil) rfl
        (Derives.nt 1 ⟨1, [.term 1], 2⟩ (u := [1]) (w := []) (.head _) (Derives.term 1 Derives.nil) Derives.nil))
      Derives.nil
  · exact Run.ntChildFail 2 ⟨2, [.term 0, .nt 1], 3⟩ (u := [0, 1]) (w := []) (.head _)
      (Run.term 0 (r := .err 2)
        (Run.ntActionFail 1 ⟨1, [.term 1], 2⟩ (u := [1]) (w := []) (args := [()]) (.head _)
          (Run.term 1 Run.nil) rfl Derives.nil))
      Derives.nil

/-- **Actions of different inlined nonterminals do not run left to right.**  With `A` and `B`
    both `#[inline]` in `S = A B`, the pass inlines `A`, then `B`; the action of the final
    production `S = "0" "1"` calls `B`'s action first (outermost composed action) and `A`'s action
    inside the inner composed action: when both fail the result is `B`'s error, although `A` is to
    the left (the grammar without `#[inline]` returns `A`'s error, see above). -/
theorem inline_order_not_left_to_right :
    WF exG2 ∧ Filed exG2 ∧ inlineOrder exG2 = .ok [0, 1] ∧
    ∃ g', inlineGrammar exG2 = .ok g' ∧
      g'.productionsFor 2 = [⟨2, [.term 0, .term 1], 4⟩] ∧
      ∀ a b, semOf g'.actions exI 4 [a, b] = .err 2 := by
  refine ⟨exG2_wf, exG2_filed, by rfl, _, by rfl, by rfl, ?_⟩
  intro a b
  rfl

end examples

end LalrpopModel.Inline
