import LalrpopModel.Lemmas.LowerLook
/-!
# C06, `@L`/`@R` part

`lookaround_spec`: for every position of an `@L`/`@R` (more generally: of any inlined symbol
without symbols) in an inlined alternative — arbitrary many symbols before and after it, among
them arbitrary many other inlined-empty ones — the location the generated `__actionN` computes
(model of `emit_inline_action_code`: `arg_counter`, `num_flat_args`, the lookbehind/lookahead
fallbacks; model of `emit_lookaround_action_code`) is the one property C06 states:
`@L` = start of the following symbol, else end of the preceding one, else the enclosing empty
position; `@R` symmetric. "Following/preceding symbol" = the nearest flat argument of the
generated function after/before the position, i.e. inlined-empty neighbours *of the same function*
are skipped.

Scope. The inliner processes one nonterminal at a time and `emit_inline_action_code` emits one
function per step; the theorem speaks about one such function. A symbol that derives nothing but is
inlined by a *later* step is an ordinary argument of the earlier function, with the span
`(end of the previous symbol, start of the next symbol)`; `lookaround_composition_counterexample`
shows that the rule therefore does not hold end to end (`"c" @L @R "d"`: `@L` = end of `c`). That is a
recorded finding of C06 (`c06:lookaround-next-to-later-inlined-empty`); `checks/lowerpart.py` compares
the compiled parsers with the *composed* functions (driver `lookmodel`) and evaluates the rule
(`lookeval`, built from `declL`/`declR`) as the property-level oracle.
-/
namespace LalrpopModel.Lower
open LalrpopModel.Inline (InlinedSymbol LocSrc startSrc endSrc Step planFrom plan numFlatArgs)
variable {N T L : Type}

theorem lookaround_spec (env : Env L) (pre post : List (InlinedSymbol N T)) (a : Nat)
    (hargs : env.args.length = numFlatArgs (pre ++ .inlined a [] :: post)) :
    let before := env.args.take (numFlatArgs pre)
    let after := env.args.drop (numFlatArgs pre)
    -- what the first loop computes for this symbol (entry `temp_counter` of the temporaries)
    (tempSpans env (pre ++ .inlined a [] :: post))[inlCount pre]? =
        some (some (declR before after env.lookbehind, declL before after env.lookahead)) ∧
    -- hence what a lookaround action called with `(&__startK, &__endK)` returns
    (∀ k : Look, ∀ s e, spanAt env pre (.inlined a []) post = some (s, e) →
        lookaroundAction k s e = declLook k before after env.lookbehind env.lookahead) := by
  intro before after
  have hb : before.length = numFlatArgs pre :=
    List.length_take_of_le (by rw [hargs, numFlatArgs_append]; exact Nat.le_add_right _ _)
  have hspan : spanAt env pre (.inlined a []) post =
      some (declR before after env.lookbehind, declL before after env.lookahead) := by
    have h := tempSpan_split env before after (List.take_append_drop _ _).symm
    rwa [hb, hargs] at h
  refine ⟨by rw [tempSpans_at, hspan], ?_⟩
  intro k s e h
  cases hspan.symm.trans h
  cases k <;> rfl

/-- the rule read off the flat arguments: the following symbol is the first flat argument that
    belongs to `post`, the preceding one the last flat argument that belongs to `pre`; other
    inlined symbols without symbols contribute nothing to either list -/
theorem neighbours_skip_empty (pre : List (InlinedSymbol N T)) (a : Nat) :
    numFlatArgs (pre ++ [.inlined a []]) = numFlatArgs pre ∧
    numFlatArgs (.inlined a [] :: pre) = numFlatArgs pre := by
  simp [numFlatArgs, InlinedSymbol.flat]

/-- several `@L`/`@R` in a row see the same two neighbours -/
theorem adjacent_lookarounds_agree (env : Env L) (pre post : List (InlinedSymbol N T)) (a b : Nat) :
    spanAt env pre (.inlined a []) (.inlined b [] :: post) =
      spanAt env (pre ++ [.inlined a []]) (.inlined b []) post := by
  rw [spanAt, spanAt, (neighbours_skip_empty pre a).1, List.append_assoc]
  rfl

/-- an inlined symbol *with* symbols spans from the start of its first to the end of its last
    flat argument -/
theorem nonempty_inlined_span (env : Env L) (pre post : List (InlinedSymbol N T)) (a : Nat)
    (syms : List (Inline.Symbol N T)) (hne : syms ≠ []) :
    spanAt env pre (.inlined a syms) post =
      match env.args[numFlatArgs pre]?, env.args[numFlatArgs pre + syms.length - 1]? with
      | some f, some l => some (f.1, l.2)
      | _, _ => none := by
  have hl : syms.length ≠ 0 := fun h => hne (List.length_eq_zero_iff.1 h)
  simp only [spanAt, tempSpan, InlinedSymbol.flat, startSrc_of_ne _ _ _ hl, endSrc_of_ne _ _ _ hl,
    evalSrc]
  cases env.args[numFlatArgs pre]? <;> cases env.args[numFlatArgs pre + syms.length - 1]? <;> rfl

/-- an action function without flat arguments (an empty production, or an inlined nonterminal
    all of whose symbols vanished) hands its own `(__lookbehind, __lookahead)` to every inlined
    symbol: the *enclosing empty position* -/
theorem empty_host_passthrough (env : Env L) (symbols : List (InlinedSymbol N T))
    (h0 : numFlatArgs symbols = 0) :
    ∀ sp ∈ tempSpans env symbols, sp = some (env.lookbehind, env.lookahead) := by
  -- without flat arguments every symbol is an inlined one without symbols, `arg_counter` stays 0
  have hall : ∀ (temp : Nat) (l : List (InlinedSymbol N T)), numFlatArgs l = 0 →
      ∀ sp ∈ (planFrom 0 temp l).filterMap (stepSpan env 0), sp = some (env.lookbehind, env.lookahead) := by
    intro temp l
    induction l generalizing temp with
    | nil => exact fun _ => List.forall_mem_nil _
    | cons s l ih =>
      intro hl
      rw [numFlatArgs_cons] at hl
      obtain ⟨hs, hl'⟩ := Nat.add_eq_zero_iff.1 hl
      cases s with
      | original x => cases hs
      | inlined act syms =>
        simp only [InlinedSymbol.flat] at hs
        simp only [planFrom, hs, Nat.add_zero, List.filterMap_cons, stepSpan]
        exact List.forall_mem_cons.2 ⟨rfl, ih _ hl'⟩
  rw [tempSpans, plan, h0]
  exact hall 0 symbols h0

/-- nesting: an `@L`/`@R` inside an inlined nonterminal whose expansion contributes no flat
    argument sees what an `@L`/`@R` written directly at that place of the host would see -/
theorem nested_lookaround (env : Env L) (pre post : List (InlinedSymbol N T)) (a : Nat)
    (inner : List (InlinedSymbol N T)) (h0 : numFlatArgs inner = 0)
    (hargs : env.args.length = numFlatArgs (pre ++ .inlined a [] :: post)) (k : Look) :
    let before := env.args.take (numFlatArgs pre)
    let after := env.args.drop (numFlatArgs pre)
    ∀ s e, spanAt env pre (.inlined a []) post = some (s, e) →
      -- the inlined action is called as `__action_a(&s, &e)`: its environment
      ∀ sp ∈ tempSpans { args := [], lookbehind := s, lookahead := e } inner,
        ∃ s' e', sp = some (s', e') ∧
          lookaroundAction k s' e' = declLook k before after env.lookbehind env.lookahead := by
  intro before after s e hspan sp hsp
  have hp := empty_host_passthrough { args := [], lookbehind := s, lookahead := e } inner h0 sp hsp
  exact ⟨s, e, hp, (lookaround_spec env pre post a hargs).2 k s e hspan⟩

/-- `expand_lookaround_symbol` + `action_kind`: `@L`/`@R` become `#[inline]` nonterminals with
    one empty alternative whose lowered action is the matching lookaround function (never
    fallible, no `action_fn` involved) -/
theorem expand_lookaround_symbol_spec (v : Variant) (pfx : Str) (isUnit : Bool) (k : Look) :
    (expandLookaroundSymbol k).isInline = true ∧
    (expandLookaroundSymbol k).name = (match k with | .ahead => ['@', 'L'] | .behind => ['@', 'R']) ∧
    ∃ act, (expandLookaroundSymbol k).alts = [{ expr := [], action := some act }] ∧
      (actionKind (B := Str) v pfx isUnit [] [] (some act) =
        .ok (match k with | .ahead => DefnKind.lookahead | .behind => DefnKind.lookbehind)) := by
  cases k
  · exact ⟨rfl, rfl, .lookahead, rfl, rfl⟩
  · exact ⟨rfl, rfl, .lookbehind, rfl, rfl⟩

/-- **The rule does not compose across inlining steps** (recorded finding of C06). Alternative
    `"c" @L @R "d"` on tokens `c` = (0,1), `d` = (4,5). `@L` is inlined first, so its function
    (`inner`) has the arguments `c`, `@R`, `d`; `@R` is inlined afterwards, its function (`outer`)
    has the arguments `c`, `d`, computes the temporary `(1, _, 4)` for `@R` and hands it to `inner`
    as an ordinary argument. Inside `inner`, `lookaround_spec` applies to *its* arguments: the
    symbol that follows `@L` is `@R` with span `(1, 4)`, so `@L` = 1 — while the start of the
    following token is 4 (`declL` over the real neighbours). -/
theorem lookaround_composition_counterexample :
    let c : Nat × Nat := (0, 1)
    let d : Nat × Nat := (4, 5)
    let outer : List (InlinedSymbol Nat Nat) := [.original (.term 0), .inlined 11 [], .original (.term 1)]
    let inner : List (InlinedSymbol Nat Nat) :=
      [.original (.term 0), .inlined 10 [], .original (.nt 7), .original (.term 1)]
    tempSpans { args := [c, d], lookbehind := 0, lookahead := 0 } outer = [some (1, 4)] ∧
    tempSpans { args := [c, (1, 4), d], lookbehind := 0, lookahead := 0 } inner = [some (1, 1)] ∧
    lookaroundAction Look.ahead (1 : Nat) 1 = 1 ∧
    declL [c] [d] (0 : Nat) = 4 := by
  decide

example : ∃ (env : Env Nat) (pre post : List (InlinedSymbol Nat Nat)),
    env.args.length = numFlatArgs (pre ++ .inlined 0 [] :: post) :=
  ⟨{ args := [(3, 5)], lookbehind := 0, lookahead := 0 }, [.original (.term 0)], [], rfl⟩

end LalrpopModel.Lower
