import LalrpopModel.Lemmas.NfaCorrect
import LalrpopModel.Lemmas.DfaBuild
/-!
C11 — lexer ambiguity is reported exactly when two equal-precedence terminals overlap.

Property theorems about the models of `Nfa::from_re` (`Model/Nfa.lean`), `remove_overlap`
and `DfaBuilder::build` (`Model/Dfa.lean`), for **all** HIRs / range sets / NFA lists.
The models follow the tree *after* the two fixes (literals decoded to scalar values in `Nfa::expr`;
`add_range` keeps the intersection in place); the code as found is kept as `fromReOrig`,
`addRangeOrig`, `buildDfaOrig`, with the counterexamples below.
-/
namespace LalrpopModel.Dfa
open LalrpopModel.Re LalrpopModel.Nfa

/-- **nfa_correct.** The NFA `from_re` builds for a (well-formed) HIR accepts exactly the words of
the HIR's language — literals read as sequences of scalar values (the runtime reading). -/
theorem nfa_correct (e : Hir) (hwf : e.WF) (N : Nfa) (h : fromRe e = .ok N) (w : List Nat) :
    accepts N w ↔ denote .chars e w :=
  nfa_correct_with .chars e hwf N h w

/-- the same for the code as found, whose language reads every literal *byte* as one symbol -/
theorem nfa_correct_orig (e : Hir) (hwf : e.WF) (N : Nfa) (h : fromReOrig e = .ok N) (w : List Nat) :
    accepts N w ↔ denote .bytes e w :=
  nfa_correct_with .bytes e hwf N h w

/-- **unsupported_iff.** `from_re` fails iff the HIR contains, in a position the construction
visits (everywhere except under `x{0}`), look-around, a lazy repetition, a named group, or a
literal that is not UTF-8. -/
theorem unsupported_iff (e : Hir) : (∃ err, fromRe e = .error err) ↔ unsupported .chars e = true :=
  unsupported_iff_with .chars e


mutual
/-- every literal byte of the HIR is ASCII -/
def AsciiLits : Hir → Prop
  | .lit bs => ∀ b, b ∈ bs → b < 128
  | .rep _ _ _ sub => AsciiLits sub
  | .cap _ sub => AsciiLits sub
  | .cat es => AsciiLitsL es
  | .alt es => AsciiLitsL es
  | _ => True
def AsciiLitsL : List Hir → Prop
  | [] => True
  | e :: es => AsciiLits e ∧ AsciiLitsL es
end

theorem decodeUtf8_ascii : ∀ (bs : List Nat), (∀ b, b ∈ bs → b < 128) → decodeUtf8 bs = some bs
  | [], _ => by simp [decodeUtf8]
  | b :: bs, h => by
    have hb := h b List.mem_cons_self
    have ih := decodeUtf8_ascii bs (fun x hx => h x (List.mem_cons_of_mem _ hx))
    unfold decodeUtf8
    simp [hb, ih]

mutual
/-- The bridge `denoteBuild_eq_runtime` of DESIGN.md. On HIRs whose literals are ASCII the byte reading
and the scalar-value reading coincide — the hypothesis the unfixed code needs for its ambiguity
verdict to be about the runtime languages. -/
theorem denote_bytes_eq_chars : ∀ (e : Hir), AsciiLits e → ∀ w, denote .bytes e w ↔ denote .chars e w
  | .empty, _, _ => Iff.rfl
  | .lit bs, h, w => by
    show some bs = some w ↔ decodeUtf8 bs = some w
    rw [decodeUtf8_ascii bs h]
  | .cls rs, _, _ => Iff.rfl
  | .look, _, _ => Iff.rfl
  | .rep min max g sub, h, w =>
    exists_congr fun k => and_congr_right fun _ => and_congr_right fun _ =>
      LPow_congr (denote_bytes_eq_chars sub h) k w
  | .cap _ sub, h, w => denote_bytes_eq_chars sub h w
  | .cat es, h, w => denoteCat_bytes_eq_chars es h w
  | .alt es, h, w => denoteAlt_bytes_eq_chars es h w
theorem denoteCat_bytes_eq_chars : ∀ (es : List Hir), AsciiLitsL es → ∀ w,
    denoteCat .bytes es w ↔ denoteCat .chars es w
  | [], _, _ => Iff.rfl
  | e :: es, h, _ =>
    exists_congr fun u => exists_congr fun v => and_congr_right fun _ =>
      and_congr (denote_bytes_eq_chars e h.1 u) (denoteCat_bytes_eq_chars es h.2 v)
theorem denoteAlt_bytes_eq_chars : ∀ (es : List Hir), AsciiLitsL es → ∀ w,
    denoteAlt .bytes es w ↔ denoteAlt .chars es w
  | [], _, _ => Iff.rfl
  | e :: es, h, w => or_congr (denote_bytes_eq_chars e h.1 w) (denoteAlt_bytes_eq_chars es h.2 w)
end

/-- **the literal-bytes counterexample.** `r"é"` (HIR literal = bytes C3 A9) and `r"[é-ê]"`: at
run time both match the one-symbol string `é` (U+E9), but under the byte reading of the code as
found their languages are disjoint — so (by `ambiguity_iff_hir`, which holds for either reading) the
unfixed builder cannot report the ambiguity. -/
theorem literal_bytes_counterexample :
    (denote .chars (.lit [0xC3, 0xA9]) [0xE9] ∧ denote .chars (.cls [(0xE9, 0xEA)]) [0xE9]) ∧
    (∀ w, ¬ (denote .bytes (.lit [0xC3, 0xA9]) w ∧ denote .bytes (.cls [(0xE9, 0xEA)]) w)) := by
  refine ⟨⟨by simp [denote, litSymbols, decodeUtf8, isCont], ⟨0xE9, rfl, (0xE9, 0xEA), by simp, by decide, by decide⟩⟩, ?_⟩
  rintro w ⟨h1, c, rfl, _⟩
  simp [denote, litSymbols] at h1

/-- **remove_overlap_partition** (fixed `add_range`). Whenever `remove_overlap` returns, its
output ranges are pairwise disjoint and non-empty, cover exactly the symbols the input ranges
cover, and each output range lies inside or is disjoint from every input range. -/
theorem remove_overlap_partition (fuel : Nat) (ranges out : List Range)
    (h : removeOverlap fuel ranges = .ok out) :
    out.Pairwise Disj ∧ (∀ t, t ∈ out → isEmpty t = false) ∧
    (∀ c, (∃ t, t ∈ out ∧ mem c t) ↔ (∃ r, r ∈ ranges ∧ mem c r)) ∧
    (∀ t, t ∈ out → ∀ r, r ∈ ranges → Sub t r ∨ Disj t r) :=
  removeOverlap_partition fuel ranges out h

/-- **the `add_range` counterexample** (code as found): on the sorted input
`{0-2, 0-3, 1-2, 2-3}` the output contains `1-2` and `2-2`, which overlap. -/
theorem remove_overlap_orig_not_partition :
    removeOverlapOrig 20 [(0, 2), (0, 3), (1, 2), (2, 3)] = .ok [(0, 0), (1, 2), (2, 2), (3, 3)] ∧
    ¬ Disj (1, 2) (2, 2) := by
  refine ⟨by rfl, fun h => h 2 ⟨by simp [mem], by simp [mem]⟩⟩

/-- pattern `i` accepts `w` -/
def AcceptsI (nfas : List Nfa) (i : Nat) (w : List Nat) : Prop :=
  i < nfas.length ∧ accepts (nfaAt nfas i) w

/-- on `w`, the accepting patterns of maximal precedence number at least two -/
def AmbiguousOn (nfas : List Nfa) (precs : List Nat) (w : List Nat) : Prop :=
  ∃ i j, i ≠ j ∧ AcceptsI nfas i w ∧ AcceptsI nfas j w ∧ precOf precs i = precOf precs j ∧
    ∀ k, AcceptsI nfas k w → precOf precs k ≤ precOf precs i

theorem rs_accepts {nfas : List Nfa} (hok : NfasOk nfas) {I : List Item} {w : List Nat} (hI : Rs nfas I w)
    (i : Nat) : (i, 0) ∈ I ↔ AcceptsI nfas i w := by
  rw [hI (i, 0)]
  simp only [AcceptsI, accepts, acc_iff_path]
  constructor
  · rintro ⟨hlt, hp⟩; exact ⟨hlt, 0, hp, (hok i hlt 0).mpr rfl⟩
  · rintro ⟨hlt, q, hp, hq⟩
    have := (hok i hlt q).mp hq
    subst this
    exact ⟨hlt, hp⟩

theorem tie_iff_ambiguous {nfas : List Nfa} (hok : NfasOk nfas) (precs : List Nat) {I : List Item}
    {w : List Nat} (hI : Rs nfas I w) : TieIn precs I ↔ AmbiguousOn nfas precs w := by
  simp only [TieIn, AmbiguousOn, rs_accepts hok hI]

/-- **dfa_state_is_reachset.** If `build` completes, every DFA state's item set is the set of NFA
states reachable (with ε-closure) by some word, and every word reaches such a state: the states
are exactly the reach sets. -/
theorem dfa_state_is_reachset (nfas : List Nfa) (precs : List Nat) (fuel : Nat) (states : List DState)
    (h : build nfas precs fuel = .ok states) :
    (∀ st, st ∈ states → ∃ w, Rs nfas st.items w) ∧ (∀ w, ∃ st, st ∈ states ∧ Rs nfas st.items w) :=
  ⟨fun st hst => ((build_ok h).1 st hst).1.reach, (build_ok h).2⟩

/-- **ambiguity (soundness).** If `build` reports `Ambiguity { match0, match1 }` there is a word on
which the accepting patterns of maximal precedence number at least two. -/
theorem ambiguity_sound (nfas : List Nfa) (hok : NfasOk nfas) (precs : List Nat) (fuel : Nat) (m0 m1 : Nat)
    (h : build nfas precs fuel = .ambiguity m0 m1) : ∃ w, AmbiguousOn nfas precs w := by
  obtain ⟨_, _, I, ⟨hnd, w, hw⟩, hk⟩ := build_loopResult h nofun
  exact ⟨w, (tie_iff_ambiguous hok precs hw).mp ((stateKind_error_iff hok (rs_valid hw) hnd).mp ⟨_, hk⟩)⟩

/-- **ambiguity (completeness).** If `build` succeeds, no word has two accepting patterns of
maximal precedence. -/
theorem ambiguity_complete (nfas : List Nfa) (hok : NfasOk nfas) (precs : List Nat) (fuel : Nat)
    (states : List DState) (h : build nfas precs fuel = .ok states) : ¬ ∃ w, AmbiguousOn nfas precs w := by
  rintro ⟨w, hamb⟩
  obtain ⟨st, hst, hr⟩ := (build_ok h).2 w
  obtain ⟨⟨hnd, _⟩, k, hk⟩ := (build_ok h).1 st hst
  obtain ⟨m, hm⟩ := (stateKind_error_iff hok (rs_valid hr) hnd).mpr ((tie_iff_ambiguous hok precs hr).mpr hamb)
  rw [hk] at hm
  cases hm

/-- **ambiguity_iff.** Whenever the subset construction runs to a verdict (it does not run out
of fuel), it reports `Ambiguity` iff some word has at least two accepting patterns of maximal
precedence. -/
theorem ambiguity_iff (nfas : List Nfa) (hok : NfasOk nfas) (precs : List Nat) (fuel : Nat)
    (hdec : (∃ states, build nfas precs fuel = .ok states) ∨ (∃ m0 m1, build nfas precs fuel = .ambiguity m0 m1)) :
    (∃ m0 m1, build nfas precs fuel = .ambiguity m0 m1) ↔ ∃ w, AmbiguousOn nfas precs w := by
  constructor
  · rintro ⟨m0, m1, h⟩; exact ambiguity_sound nfas hok precs fuel m0 m1 h
  · intro hw
    rcases hdec with ⟨states, h⟩ | h
    · exact absurd hw (ambiguity_complete nfas hok precs fuel states h)
    · exact h


/-- on the HIR list `res`, with maximal precedence, at least two patterns match `w` -/
def AmbiguousLang (m : LitMode) (res : List Hir) (precs : List Nat) (w : List Nat) : Prop :=
  ∃ i j ei ej, i ≠ j ∧ res[i]? = some ei ∧ res[j]? = some ej ∧ denote m ei w ∧ denote m ej w ∧
    precOf precs i = precOf precs j ∧
    ∀ k ek, res[k]? = some ek → denote m ek w → precOf precs k ≤ precOf precs i

/-- **ambiguity_iff at the level of `build_dfa`.** For well-formed HIRs all of which `from_re`
accepts, `build_dfa` (when it reaches a verdict) reports `Ambiguity` iff some word is matched,
with maximal precedence, by at least two of the regular expressions — in the reading of literals
`m` the NFA construction uses (`chars` for the tree as it is now). -/
theorem ambiguity_iff_hir (m : LitMode) (res : List Hir) (hwf : ∀ e, e ∈ res → e.WF) (precs : List Nat)
    (fuel : Nat) (nfas : List Nfa) (hn : buildNfas m res 0 = .ok nfas)
    (hdec : (∃ states, build nfas precs fuel = .ok states) ∨ (∃ m0 m1, build nfas precs fuel = .ambiguity m0 m1)) :
    (∃ m0 m1, buildDfaWith m res precs fuel = .ambiguity m0 m1) ↔ ∃ w, AmbiguousLang m res precs w := by
  obtain ⟨hlen, hall⟩ := buildNfas_spec m res 0 nfas hn
  have hwf' : ∀ {i : Nat} {e : Hir}, res[i]? = some e → e.WF := fun h => hwf _ (List.mem_of_getElem? h)
  have hok : NfasOk nfas := fun i hi q => by
    obtain ⟨e, he, hf⟩ := hall i hi
    exact fromRe_accepting_iff (hwf' he) hf q
  have hacc : ∀ i w, AcceptsI nfas i w ↔ ∃ e, res[i]? = some e ∧ denote m e w := by
    intro i w
    constructor
    · rintro ⟨hi, ha⟩
      obtain ⟨e, he, hf⟩ := hall i hi
      exact ⟨e, he, (nfa_correct_with m e (hwf' he) _ hf w).mp ha⟩
    · rintro ⟨e, he, hd⟩
      have hi : i < nfas.length := hlen ▸ (List.getElem?_eq_some_iff.mp he).1
      obtain ⟨e', he', hf⟩ := hall i hi
      cases he.symm.trans he'
      exact ⟨hi, (nfa_correct_with m e (hwf' he) _ hf w).mpr hd⟩
  have hbd : buildDfaWith m res precs fuel = build nfas precs fuel := by simp [buildDfaWith, hn]
  rw [hbd, ambiguity_iff nfas hok precs fuel hdec]
  constructor
  · rintro ⟨w, i, j, hij, hi, hj, hp, hmax⟩
    obtain ⟨ei, hei, hdi⟩ := (hacc i w).mp hi
    obtain ⟨ej, hej, hdj⟩ := (hacc j w).mp hj
    exact ⟨w, i, j, ei, ej, hij, hei, hej, hdi, hdj, hp,
      fun k ek hk hd => hmax k ((hacc k w).mpr ⟨ek, hk, hd⟩)⟩
  · rintro ⟨w, i, j, ei, ej, hij, hei, hej, hdi, hdj, hp, hmax⟩
    refine ⟨w, i, j, hij, (hacc i w).mpr ⟨ei, hei, hdi⟩, (hacc j w).mpr ⟨ej, hej, hdj⟩, hp, ?_⟩
    intro k hk
    obtain ⟨ek, hek, hdk⟩ := (hacc k w).mp hk
    exact hmax k ek hek hdk

/-- the hypotheses are satisfiable: `a` vs `[a-b]` at equal precedence is ambiguous on `"a"` -/
example : AmbiguousLang .chars [.lit [97], .cls [(97, 98)]] [0, 0] [97] :=
  ⟨0, 1, _, _, by decide, rfl, rfl, by simp [denote, litSymbols, decodeUtf8],
    ⟨97, rfl, (97, 98), by simp, by decide, by decide⟩, rfl,
    fun k ek hk _ => by
      have : k < 2 := (List.getElem?_eq_some_iff.mp hk).1
      have : k = 0 ∨ k = 1 := by omega
      rcases this with rfl | rfl <;> simp [precOf]⟩

end LalrpopModel.Dfa
