import LalrpopModel.Lemmas.PrecValidate
import LalrpopModel.Props.C12
import LalrpopModel.Lemmas.C18FileText
/-!
# C18 — lalrpop never panics: the precedence pass behind its validator

`expand_nonterm` contains `unwrap`/`expect`/`assert!` calls that rely on `validate_precedence`
(prevalidate) having rejected the grammar before.  Statements about the models of both
(`Model/Prec.lean`), for ALL nonterminals:

* `prevalidated_expand_total` — with the **repaired** validator (`fixed = true`, the one in the
  tree: it also tracks alternatives that inherit the minimum level), a nonterminal that passes
  validation and that `expand_precedence` selects (`has_prec_attr`) never makes `expand_nonterm`
  panic; the result is the documented tiered grammar.
* `prevalidated_expand_total_false_before_fix` — the same statement is FALSE for the validator
  before the repair (`fixed = false`); the witness is `witness` below, a two-alternative `E`
  whose second alternative carries only `#[assoc]`.
* `cfg_then_precedence_not_total` — prevalidation happens before `#[cfg]` removal: deleting a
  disabled first alternative from a validated nonterminal can still make `expand_nonterm` panic
  (witness `cfgWitness`).
* `cfg_then_precedence_total` — the repair: `lower_helper` validates the precedence annotations
  again after conditional compilation (`validate_precedence_after_cond_comp`); re-validation
  followed by `expand_precedence` never panics, for all grammars.
* `parseU32_bound`, `annotate_total_iff` (C12) — the `unwrap`s on attribute values.

* `FileText.highlight_arith_safe`, `FileText.line_col_spec` (Lemmas/C18FileText.lean) — the `usize`
  arithmetic, indexing and slicing of `file_text.rs` (`line_col`, `line_text`, `highlight`) cannot
  fail for spans with `lo ≤ hi`, for any text.

The modelled panics are: `get_arg_equal().unwrap()`, `parse::<u32>().unwrap()`,
`parse::<Assoc>().unwrap()`, `lvls.last().unwrap()`, the `expect` on the first level,
`panic!("ambiguous id ..")` in `replace_symbol`, `assert!(rest.next().is_none())`.
-/
namespace LalrpopModel.Prec
open LalrpopModel.PT

/-- **Validation makes expansion total** (repaired validator).  For every nonterminal: if
`validate_precedence` accepts its alternatives, `has_prec_attr` selects it for expansion, and
name resolution left no ambiguous identifier, then `expand_nonterm` does not panic — it returns
the documented tiers. -/
theorem prevalidated_expand_total (nt : Nonterm)
    (hv : validatePrecedence true nt.alts = .ok ()) (hp : hasPrecAttr nt = true)
    (hamb : ∀ alt ∈ nt.alts, noAmbigL alt.expr = true) :
    ∃ tiers, expandNonterm nt = .ok tiers ∧ tiers = tiered nt (inherit 0 .fullyAssoc nt.alts) :=
  ⟨_, validated_expand_ok nt hv hp hamb, rfl⟩

/-- in particular no panic outcome at all -/
theorem prevalidated_expand_no_panic (nt : Nonterm)
    (hv : validatePrecedence true nt.alts = .ok ()) (hp : hasPrecAttr nt = true)
    (hamb : ∀ alt ∈ nt.alts, noAmbigL alt.expr = true) (p : Panic) :
    expandNonterm nt ≠ .error p := by
  rw [validated_expand_ok nt hv hp hamb]
  intro h; cases h

/-- `#[precedence(level="1")] "a" => 1` -/
def wAtom : Alt :=
  { expr := [.terminal (.atom "a")], cond := none, action := none,
    attrs := [.paren PREC_ATTR [.equal LVL_ARG ['1']]] }
/-- `#[assoc(side="left")] <l:E> "+" <r:E> => l + r` (inherits level 1, the first level) -/
def wPlus : Alt :=
  { expr := [.name (.atom "l") (.nonterminal ['E']), .terminal (.atom "+"), .name (.atom "r") (.nonterminal ['E'])],
    cond := none, action := none,
    attrs := [.paren ASSOC_ATTR [.equal SIDE_ARG ['l','e','f','t']]] }
/-- `pub E: u32 = { #[precedence(level="1")] "a" => 1,
    #[assoc(side="left")] <l:E> "+" <r:E> => l + r };` -/
def witness : Nonterm :=
  { name := ['E'], vis := .atom "pub", attrs := [], args := [], typeDecl := .atom "u32", alts := [wAtom, wPlus] }

/-- **Before the repair, validation does not make expansion total**: the witness passes
`validate_precedence`, is selected by `has_prec_attr`, has no ambiguous identifier, and
`expand_nonterm` panics with
`expect("unexpected associativity attribute on the first precedence level")`. -/
theorem prevalidated_expand_total_false_before_fix :
    ¬ (∀ nt : Nonterm, validatePrecedence false nt.alts = .ok () → hasPrecAttr nt = true →
        (∀ alt ∈ nt.alts, noAmbigL alt.expr = true) → ∃ tiers, expandNonterm nt = .ok tiers) := by
  intro h
  have hv : validatePrecedence false witness.alts = .ok () := by rfl
  have hp : hasPrecAttr witness = true := by rfl
  have ha : ∀ alt ∈ witness.alts, noAmbigL alt.expr = true := by decide
  obtain ⟨tiers, ht⟩ := h witness hv hp ha
  have hpanic : expandNonterm witness = .error .firstLevelAssoc := by rfl
  rw [hpanic] at ht
  cases ht

/-- the repaired validator rejects the witness with
    "cannot set associativity on the first precedence level 1" -/
theorem fixed_validator_rejects_witness :
    validatePrecedence true witness.alts = .error (.assocOnFirstLevel 1) := by rfl

/-- `#[cfg(feature="x")] #[precedence(level="5")] "a" => 1` -/
def cAtom : Alt :=
  { expr := [.terminal (.atom "a")], cond := none, action := none,
    attrs := [.paren ['c','f','g'] [.equal ['f','e','a','t','u','r','e'] ['x']],
              .paren PREC_ATTR [.equal LVL_ARG ['5']]] }
/-- `#[precedence(level="1")] "b" => 2` -/
def cLow : Alt :=
  { expr := [.terminal (.atom "b")], cond := none, action := none,
    attrs := [.paren PREC_ATTR [.equal LVL_ARG ['1']]] }
def cfgWitness : Nonterm :=
  { name := ['E'], vis := .atom "pub", attrs := [], args := [], typeDecl := .atom "u32",
    alts := [cAtom, wPlus, cLow] }

/-- **Conditional compilation after validation breaks the guarantee**: the nonterminal
`{ #[cfg(feature="x")] #[precedence(level="5")] "a", #[assoc(side="left")] <l:E> "+" <r:E>,
#[precedence(level="1")] "b" }` passes the (repaired) validator; with feature `x` off the first
alternative is deleted, `has_prec_attr` still selects the nonterminal (the new first alternative
has an `assoc` attribute), the fold starts from level 0, and `expand_nonterm` panics. -/
theorem cfg_then_precedence_not_total :
    validatePrecedence true cfgWitness.alts = .ok () ∧
    hasPrecAttr { cfgWitness with alts := cfgWitness.alts.tail } = true ∧
    expandNonterm { cfgWitness with alts := cfgWitness.alts.tail } = .error .firstLevelAssoc := by
  refine ⟨by rfl, by rfl, by rfl⟩

/-- and when the surviving first alternative carries no annotation, the nonterminal is silently
left unexpanded although later alternatives carry `precedence` attributes (the grammar with the
disabled alternative deleted is rejected by the validator: "missing precedence attribute on the
first alternative") -/
theorem cfg_then_precedence_silently_skipped :
    let nt : Nonterm := { cfgWitness with alts := [cAtom, { wPlus with attrs := [] }, cLow] }
    validatePrecedence true nt.alts = .ok () ∧
    hasPrecAttr { nt with alts := nt.alts.tail } = false ∧
    validatePrecedence true nt.alts.tail = .error .missingFirst := by
  refine ⟨by rfl, by rfl, by rfl⟩

/-- the re-validation rejects the nonterminal of `cfg_then_precedence_not_total` once the
    disabled alternative is gone ("missing precedence attribute on the first alternative") -/
theorem revalidation_rejects_cfg_witness :
    validatePrecedence true cfgWitness.alts.tail = .error .missingFirst := by rfl

theorem expandItems_of_validated (items : List Item)
    (hv : validateItems true items = .ok ())
    (hamb : ∀ nt, Item.nonterm nt ∈ items → ∀ alt ∈ nt.alts, noAmbigL alt.expr = true) :
    expandItems items = .ok (items.flatMap fun it =>
      match it with
      | .nonterm nt =>
        if hasPrecAttr nt then (tiered nt (inherit 0 .fullyAssoc nt.alts)).map .nonterm else [it]
      | _ => [it]) :=
  expand_items_spec items _
    (fun nt hnt hp => validated_expand_ok nt (validateItems_ok true items hv nt hnt) hp (hamb nt hnt))

/-- **The segment of `lower_helper` behind conditional compilation never panics**
(`validate_precedence_after_cond_comp`, then `expand_precedence`): for every grammar — whatever
conditional compilation removed — without unresolved identifiers, the outcome is a grammar or the
diagnostic of the re-validation, never one of the panics of `expand_nonterm`. -/
theorem cfg_then_precedence_total (g : Grammar)
    (hamb : ∀ nt, Item.nonterm nt ∈ g.items → ∀ alt ∈ nt.alts, noAmbigL alt.expr = true) (p : Panic) :
    revalidateThenExpand g ≠ .error (.panic p) := by
  unfold revalidateThenExpand
  cases hv : validateItems true g.items with
  | error e => exact fun h => nomatch h
  | ok u =>
    unfold expandPrecedence
    rw [expandItems_of_validated g.items hv hamb]
    exact fun h => nomatch h

/-- a level accepted by the validator fits `u32` (so `val.parse::<u32>().unwrap()` and the
    `format!("{}{}", name, lvl)` see the same number) -/
theorem parseU32_bound (s : Str) (n : Nat) (h : parseU32 s = some n) : n ≤ 4294967295 :=
  parseU32_le s n h

end LalrpopModel.Prec
