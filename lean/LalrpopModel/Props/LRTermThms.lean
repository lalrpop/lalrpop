import LalrpopModel.Lemmas.LRTermMain
import LalrpopModel.Lemmas.LRTermCount
import LalrpopModel.Props.LRPrefixThms
/-!
C08 — the model driver TERMINATES on every input, within a number of machine steps that is linear
in the length of the input (final statements; proofs in `Lemmas/LRTerm*.lean`).

Hypothesis V7 = `checkTerm T F = true` (`Model/LR/Validate.lean`; `lpm_lr` command `validate3`, with
`F = termFuel T`): an executable check of the emitted tables alone — for every lookahead, the loop
"reduce under this lookahead" is simulated from `[0]` and from every two-state stack `[t, b]` with
`t` pushed on `b` by a goto or a shift entry, and must stop within `F` iterations (besides a few
shape facts that are part of V0 too). V7 is NOT implied by the soundness clauses of `validate`
(`loopT` below passes none of the termination checks and its driver never returns); it holds for
every automaton of the correspondence runs (lane table, LR(1), LALR; with and without `!`).

What is proved, for ARBITRARY tables with V7, token kinds that are terminal indices, arbitrary
`failAt` and start location:

* `driver_terminates_any_fuel`, `driver_terminates_under_V7` (recovery off): the run from the
  initial configuration reaches `.done r`, `r ≠ panic outOfFuel`, within
  `termBound F len = (F+1) + (len+1)·((F+1)² + F + 2)` steps, for every `accepts` fuel
  `≥ termAccFuel F len`;
* `driver_terminates_recovery_any_fuel`, `driver_terminates_recovery` (recovery ON or off, stream
  errors allowed): the same within `termBoundRec F len = (F+1)·(1 + (len+1)·(3F+7))` steps;
* with `validateSound` in addition (`driver_terminates`, `driver_terminates_recovery_validated`):
  the outcome is no panic at all — `Ok(..)` or `Err(..)`; in particular
  `eof_recovery_no_found_token`;
* `parse_decides` (validate + V7, recovery off, `NoFail`): total correctness — the driver returns,
  `Ok` exactly on the sentences of the start symbol;
* `accepts_terminates_on_run`, `accepts_answers_on_run`: the `accepts` simulation answers on every
  stack that occurs in a run, for every lookahead, within `accFuel F |states|` iterations;
* `recovery_progress`: the parse loop entered after a successful `error_recovery` with a token
  lookahead shifts that token (phase `.pull`) or ends the run — it never enters `error_recovery`
  again for the same token; so no two recoveries happen at the same input position;
* `accept_steps_exact`: on the yield of a derivation tree `t` the run is finished after exactly
  `2·|yield t| + |nodes of t| + 2` steps (one per `tokens.next()`, shift and reduction).

What is NOT proved (the residue `termination_partial` of DESIGN.md, C08): that V7 follows from the
other validator clauses, i.e.

  theorem driver_terminates_of_validate (h : validate G T A ann = true)
      (h5 : checkProductive G A = true) (hrec : T.usesRecovery = false) (toks : List Tok)
      (hin : KindsInRange T toks) (failAt : Option Nat) (startLoc : Int) :
      ∃ n af c r, run T af failAt startLoc n (init startLoc (toks.map Item.tok)) .pull = (c, .done r) ∧
        r ≠ .panic .outOfFuel

(the missing link: a reduce loop that does not stop revisits a state at the same stack height,
which yields a cyclic derivation `A ⇒⁺ A` of a reachable productive nonterminal, contradicting
`validated_unambiguous`; this needs derivation surgery on stack forests and would only cover the
state pairs a run can reach, not the junk entries of `__goto` that V7 also simulates). Instead V7
is CHECKED on the emitted tables, like the other clauses (`validate3`; the runs are recorded in
DESIGN.md I.8).

The amortised accounting behind the bounds: a reduce loop that frees `d` stack levels takes fewer
than `F·(d+1)` iterations and adds fewer than `F` levels (`Term.phase_term`), so all loops of a run
together take `O(F²·len)` steps (`Lemmas/LRTermMain.lean`).
-/
namespace LalrpopModel.LR
open LalrpopModel.LR.Term LalrpopModel.LR.Generic

section
variable {G : Grammar} {T : Tables} {A : Automaton} {ann : Ann} {F : Nat}

/-- **Termination (recovery off), any sufficient fuel.** -/
theorem driver_terminates_any_fuel (h7 : checkTerm T F = true) (hrec : T.usesRecovery = false)
    (toks : List Tok) (hin : KindsInRange T toks) (failAt : Option Nat) (startLoc : Int)
    (af : Nat) (haf : termAccFuel F toks.length ≤ af) :
    ∃ n c r, n ≤ termBound F toks.length ∧
      run T af failAt startLoc n (init startLoc (toks.map Item.tok)) .pull = (c, .done r) ∧
      r ≠ .panic .outOfFuel := by
  have := init_terminates (af := af) (failAt := failAt) (startLoc := startLoc) (termOK_of_check h7) hrec
    (toks.map Item.tok) (inRange_of_kinds hin) (by rw [List.length_map]; exact haf)
  rw [List.length_map] at this
  exact this

/-- **Termination (recovery off)**: some number of steps `n ≤ termBound F len` and some `accepts`
    fuel end the run with an outcome that is not the model's fuel stop. -/
theorem driver_terminates_under_V7 (h7 : checkTerm T F = true) (hrec : T.usesRecovery = false)
    (toks : List Tok) (hin : KindsInRange T toks) (failAt : Option Nat) (startLoc : Int) :
    ∃ n af c r, n ≤ termBound F toks.length ∧
      run T af failAt startLoc n (init startLoc (toks.map Item.tok)) .pull = (c, .done r) ∧
      r ≠ .panic .outOfFuel := by
  obtain ⟨n, c, r, h⟩ := driver_terminates_any_fuel h7 hrec toks hin failAt startLoc _ (Nat.le_refl _)
  exact ⟨n, _, c, r, h⟩

/-- … for validated tables the outcome is no panic at all: `parse` returns `Ok` or `Err` -/
theorem driver_terminates (hs : validateSound G T A = true) (h7 : checkTerm T F = true)
    (hrec : T.usesRecovery = false) (toks : List Tok) (hin : KindsInRange T toks)
    (failAt : Option Nat) (startLoc : Int) :
    ∃ n af c r, n ≤ termBound F toks.length ∧
      run T af failAt startLoc n (init startLoc (toks.map Item.tok)) .pull = (c, .done r) ∧
      ∀ tag, r ≠ .panic tag := by
  obtain ⟨n, af, c, r, hn, hrun, hr⟩ := driver_terminates_under_V7 h7 hrec toks hin failAt startLoc
  exact ⟨n, af, c, r, hn, hrun, no_panic_of_ne_fuel hs (inRange_of_kinds hin) ⟨n, af, hrun⟩ hr⟩

/-- **Total correctness** (validate + V7, recovery off, no failing action): the driver returns
    within the bound, with `Ok(v)` — `v` a derivation tree of the start symbol over exactly the
    input — when the kinds of the input are a sentence, and with `Err(..)` otherwise. -/
theorem parse_decides (h : validate G T A ann = true) (h7 : checkTerm T F = true)
    (hrec : T.usesRecovery = false) {S : NT} (hS : G.startSym = some S) (toks : List Tok)
    (hin : KindsInRange T toks) (failAt : Option Nat) (hf : NoFail T failAt) (startLoc : Int) :
    ∃ n af c r, n ≤ termBound F toks.length ∧
      run T af failAt startLoc n (init startLoc (toks.map Item.tok)) .pull = (c, .done r) ∧
      (KindsSentence G S toks → ∃ v, r = .ok v ∧ Tree.WF G (errT T) v ∧
        v.root G (errT T) = some (Sym.n S) ∧ v.yield = toks) ∧
      (¬ KindsSentence G S toks → ∃ e, r = .err e) := by
  obtain ⟨n, af, c, r, hn, hrun, hr⟩ :=
    driver_terminates_under_V7 h7 hrec toks hin failAt startLoc
  have hret : Returns T failAt startLoc (toks.map Item.tok) c r := ⟨n, af, hrun⟩
  have hiff := rejected_iff_not_sentence h hrec hS toks hin failAt hf startLoc hret hr
  refine ⟨n, af, c, r, hn, hrun, ?_, fun hns => hiff.mpr hns⟩
  intro hsent
  cases r with
  | ok v =>
    exact ⟨v, rfl, accepted_value_is_derivation (validate_split h).1 hrec hS toks hin hret⟩
  | err e => exact (hiff.mp ⟨e, rfl⟩ hsent).elim
  | panic tag =>
    exact (no_panic_of_ne_fuel (validate_split h).1 (inRange_of_kinds hin) hret hr tag rfl).elim

/-- **Termination (recovery ON or off), any sufficient fuel.** The stream may contain error items
    (`Err(e)` of the token iterator). -/
theorem driver_terminates_recovery_any_fuel (h7 : checkTerm T F = true) (input : List Item)
    (hin : InRange T input) (failAt : Option Nat) (startLoc : Int)
    (af : Nat) (haf : termAccFuelRec F input.length ≤ af) :
    ∃ n c r, n ≤ termBoundRec F input.length ∧
      run T af failAt startLoc n (init startLoc input) .pull = (c, .done r) ∧ r ≠ .panic .outOfFuel :=
  init_terminates_rec (termOK_of_check h7) input hin haf

theorem driver_terminates_recovery (h7 : checkTerm T F = true) (input : List Item)
    (hin : InRange T input) (failAt : Option Nat) (startLoc : Int) :
    ∃ n af c r, n ≤ termBoundRec F input.length ∧
      run T af failAt startLoc n (init startLoc input) .pull = (c, .done r) ∧ r ≠ .panic .outOfFuel := by
  obtain ⟨n, c, r, h⟩ :=
    driver_terminates_recovery_any_fuel h7 input hin failAt startLoc _ (Nat.le_refl _)
  exact ⟨n, _, c, r, h⟩

/-- … for validated tables: `parse` returns `Ok` or `Err`, whatever the input, with recovery too -/
theorem driver_terminates_recovery_validated (hs : validateSound G T A = true)
    (h7 : checkTerm T F = true) (input : List Item) (hin : InRange T input)
    (failAt : Option Nat) (startLoc : Int) :
    ∃ c r, Returns T failAt startLoc input c r ∧ ∀ tag, r ≠ .panic tag := by
  obtain ⟨n, af, c, r, _, hrun, hr⟩ := driver_terminates_recovery h7 input hin failAt startLoc
  exact ⟨c, r, ⟨n, af, hrun⟩, no_panic_of_ne_fuel hs hin ⟨n, af, hrun⟩ hr⟩

/-- `panic!("cannot find token at EOF")` is unreachable (corollary of `driver_no_panic`) -/
theorem eof_recovery_no_found_token (hs : validateSound G T A = true) {input : List Item}
    (hin : InRange T input) {failAt : Option Nat} {startLoc : Int} {c : Cfg} {r : Outcome}
    (hr : Returns T failAt startLoc input c r) : r ≠ .panic .eofFoundToken := by
  intro h
  have := driver_no_panic hs hin hr _ h
  cases this

/-- on every stack that occurs in a run (any fuels, recovery on or off), for every lookahead (end
    of input or a terminal), `accepts` with fuel `≥ accFuel F |states|` does not run out of fuel -/
theorem accepts_terminates_on_run (h7 : checkTerm T F = true) {input : List Item}
    (hin : InRange T input) {af : Nat} {failAt : Option Nat} {startLoc : Int} {n : Nat} {c : Cfg}
    {ph : Phase} (hrun : run T af failAt startLoc n (init startLoc input) .pull = (c, ph))
    (hnd : ∀ r, ph ≠ .done r) (la : LA) (hla : ∀ i, la = some i → i < T.nTerm)
    (af' : Nat) (haf : accFuel F c.states.length ≤ af') :
    accepts T af' c.states la ≠ .error .outOfFuel := by
  have hla' : LAok T la := by
    cases la with
    | none => trivial
    | some i => exact hla i rfl
  exact accepts_terminates_reachable (termOK_of_check h7) hin hrun (phDone_of_ne hnd) hla' haf

/-- … and for validated tables it answers `true` or `false` -/
theorem accepts_answers_on_run (hs : validateSound G T A = true) (h7 : checkTerm T F = true)
    {input : List Item} (hin : InRange T input) {af : Nat} {failAt : Option Nat} {startLoc : Int}
    {n : Nat} {c : Cfg} {ph : Phase}
    (hrun : run T af failAt startLoc n (init startLoc input) .pull = (c, ph))
    (hnd : ∀ r, ph ≠ .done r) (la : LA) (hla : ∀ i, la = some i → i < T.nTerm)
    (af' : Nat) (haf : accFuel F c.states.length ≤ af') :
    ∃ b, accepts T af' c.states la = .ok b := by
  have hne := accepts_terminates_on_run h7 hin hrun hnd la hla af' haf
  have Sd := sound_of_validate hs
  obtain ⟨⟨Xs, hp, _⟩, _⟩ := inv_stack (Inv.of_run Sd hin hrun) (phDone_of_ne hnd)
  cases hacc : accepts T af' c.states la with
  | ok b => exact ⟨b, rfl⟩
  | error tag =>
    have := accepts_no_panic Sd af' c.states Xs la hp hla tag hacc
    subst this
    exact (hne hacc).elim

/-- when `error_recovery` succeeds with a token lookahead `t` (the step from `'find_state` leads to
    the parse loop `.act t i`), that loop shifts `t` (phase `.pull`, nothing pulled in between) or
    ends the run: the error action is not met again under `t`. -/
theorem recovery_progress (h7 : checkTerm T F = true) {input : List Item} (hin : InRange T input)
    {af : Nat} {failAt : Option Nat} {startLoc : Int} {k : Nat} {c c' : Cfg}
    {la : Option (Tok × Term)} {e : PErr} {dropped : List Tok} {sl : Nat} {fe : Bool} {t : Tok} {i : Term}
    (hrun : run T af failAt startLoc k (init startLoc input) .pull = (c, .recFind la e dropped sl fe))
    (hstep : step T af failAt startLoc c (.recFind la e dropped sl fe) = (c', .act t i))
    (haf : accFuel F (c'.states.length + F) ≤ af) :
    ∃ n c'' ph'', n ≤ (F + 1) * (c'.states.length + F + 2) ∧
      run T af failAt startLoc n c' (.act t i) = (c'', ph'') ∧
      ((∃ r, ph'' = .done r ∧ r ≠ .panic .outOfFuel) ∨ (ph'' = .pull ∧ c''.input = c'.input)) := by
  have hT := termOK_of_check h7
  obtain ⟨hadj, _, hrec, hla⟩ := adjInv_of_run hT hin hrun
  have hf := step_find hT hrec af failAt startLoc c hadj la hla e dropped sl fe
  rw [hstep] at hf
  -- of the steps out of `'find_state`, only the push leads to a phase `.act`
  cases hf with
  | push hph hadj' _ _ hcert =>
    obtain rfl : la = some (t, i) := afterPh_eq_act hph.symm
    have hi : i < T.nTerm := hla
    obtain ⟨n, c'', ph'', d, hrun', hn, hres⟩ :=
      act_phase hT failAt startLoc hi t c' hadj' haf
    cases hres with
    | done hr hd =>
      exact ⟨n, c'', _, Nat.le_trans (Nat.le_of_succ_le hn)
          (Nat.mul_le_mul_left _ (Nat.le_trans hd (Nat.le_add_right _ 2))), hrun', .inl ⟨_, rfl, hr⟩⟩
    | shift hc'' =>
      have hd : d + 1 ≤ c'.states.length + F + 1 :=
        Nat.succ_le_succ (Nat.le_trans (Nat.le_add_left d _) hc''.height)
      exact ⟨n, c'', _, Nat.le_trans (Nat.le_of_succ_le hn)
          (Nat.mul_le_mul_left _ (Nat.le_succ_of_le hd)), hrun', .inr ⟨rfl, hc''.input⟩⟩
    | actRec _ _ hno => exact (hno af hcert).elim

/-- on the yield of a derivation tree `t` of the start symbol (validated tables, recovery off, no
    failing action, any `accepts` fuel) the run is finished after EXACTLY
    `2·|yield| + |nodes| + 2` machine steps, and not before: one step per `tokens.next()`
    (`|yield| + 1`), per shift (`|yield|`) and per reduction (`|nodes| + 1`, the start production
    included). Every step before the last is counted by `pulled`, `acts` or a token on the stack
    (`Term.accept_count`); the run of the completeness proof (`drive_complete_run`) ends with
    `pulled = |yield| + 1` and `acts = |nodes| + 1`, and the soundness invariant leaves no symbol on
    the final stack. -/
theorem accept_steps_exact (h : validate G T A ann = true) (hrec : T.usesRecovery = false)
    (t : Tree) (S : NT) (hS : G.startSym = some S) (hwf : Tree.WF G none t)
    (hroot : t.root G none = some (Sym.n S)) (hin : KindsInRange T t.yield)
    (failAt : Option Nat) (hf : NoFail T failAt) (startLoc : Int) (af : Nat) :
    ∃ c v, run T af failAt startLoc (2 * t.yield.length + t.post.length + 2)
        (init startLoc (t.yield.map Item.tok)) .pull = (c, .done (.ok v)) ∧ v.shape = t.shape ∧
      ∀ m, m < 2 * t.yield.length + t.post.length + 2 →
        ∀ r, (run T af failAt startLoc m (init startLoc (t.yield.map Item.tok)) .pull).2 ≠ .done r := by
  obtain ⟨hs, hc⟩ := validate_split h
  obtain ⟨n, c, v, hrun, hsh, hpu, _, hac⟩ :=
    drive_complete_run (valid_of_validateComplete hc) af failAt hf startLoc t S hS hwf hroot
  obtain ⟨k, hk, hnd, hrun', hcount⟩ := accept_count hrec hrun
  have hinv := returns_inv (sound_of_validate hs) (inRange_of_kinds hin) ⟨n, af, hrun⟩
  simp only [Inv] at hinv
  obtain ⟨_, _, hsym, _⟩ := hinv
  have hvy : v.yield.length = t.yield.length := by
    rw [← Tree.yield_shape v, hsh, Tree.yield_shape t]
  rw [(hsym hrec).1, hpu, hac, hvy] at hcount
  simp only [stackYield, List.length_nil] at hcount
  have hk' : k + 1 = 2 * t.yield.length + t.post.length + 2 := by omega
  rw [hk'] at hrun'
  refine ⟨c, v, hrun', hsh, ?_⟩
  intro m hm r hr
  -- a run that is final after `m ≤ k` steps is final after `k`
  rw [← hk'] at hm
  rw [run_done_stable T af failAt startLoc (Prod.ext rfl hr) (Nat.le_of_lt_succ hm)] at hnd
  cases hnd

end

/-! ## The hypotheses are satisfiable, and V7 is not vacuous -/
namespace TermExample
open CompleteExample PrefixExample

/-- V7 on the real lalrpop tables of `E → "(" E ")" | ε` (fuel 2 suffices; `validate3` uses
    `termFuel`) and on the two other example tables of the `Props/LR*Thms.lean` files -/
theorem ex_v7 : checkTerm CompleteExample.exT 2 = true := by decide +kernel
example : checkTerm CompleteExample.exT (termFuel CompleteExample.exT) = true := by decide +kernel
example : checkTerm LalrpopModel.LR.exT 3 = true := by decide +kernel
/-- … and on tables with error recovery (`S = "a" | !`) -/
theorem ex_v7_rec : checkTerm GenericThms.T4 2 = true := by decide +kernel
example : GenericThms.T4.usesRecovery = true := rfl

example : termBound 2 3 = 55 := by decide
example : termBoundRec 2 2 = 120 := by decide

/-- `driver_terminates` at work on `( ) )`: the run ends within `termBound 2 3 = 55` steps -/
example : ∃ n af c r, n ≤ termBound 2 3 ∧
    run CompleteExample.exT af none 0 n (init 0 ([lp 0, rp 1, rp 2].map Item.tok)) .pull = (c, .done r) ∧
    ∀ tag, r ≠ .panic tag :=
  driver_terminates (validate_split ex_validate).1 ex_v7 rfl [lp 0, rp 1, rp 2] ex_inRange none 0

/-- … it actually takes 9 steps (3 pulls, 2 shifts, 2 reductions, 1 error) -/
example : ∃ c, run CompleteExample.exT 10 none 0 8 (init 0 ([lp 0, rp 1, rp 2].map Item.tok)) .pull
    = (c, .done (.err (.unrecognizedToken (rp 2) []))) := ⟨_, rfl⟩

/-- `accept_steps_exact` on `( )`: `2·2 + 2 + 2 = 8` steps -/
example : ∃ c v, run CompleteExample.exT 0 none 0 8 (init 0 (exTree.yield.map Item.tok)) .pull
    = (c, .done (.ok v)) := by
  have hin : KindsInRange CompleteExample.exT exTree.yield := by
    intro t ht k hk
    simp only [exTree, Tree.yield, Forest.yield, List.cons_append, List.nil_append, List.append_nil,
      List.mem_cons, List.not_mem_nil, or_false] at ht
    rcases ht with rfl | rfl <;> cases hk <;> decide
  obtain ⟨c, v, h, _⟩ := accept_steps_exact ex_validate rfl exTree 0 (by decide) exTree_wf rfl hin
    none (Or.inl rfl) 0 0
  exact ⟨c, v, h⟩

/-- recovery on: `a a` with `S = "a" | !` ends within `termBoundRec 2 2 = 120` steps (it takes 11) -/
example : ∃ n af c r, n ≤ termBoundRec 2 2 ∧
    run GenericThms.T4 af none 0 n (init 0 [.tok GenericThms.a0, .tok GenericThms.a1]) .pull = (c, .done r) ∧
    r ≠ .panic .outOfFuel := by
  have hin : InRange GenericThms.T4 [.tok GenericThms.a0, .tok GenericThms.a1] := by
    intro t k hm hk
    simp only [List.mem_cons, Item.tok.injEq, List.not_mem_nil, or_false] at hm
    rcases hm with rfl | rfl <;> cases hk <;> decide
  exact driver_terminates_recovery ex_v7_rec [.tok GenericThms.a0, .tok GenericThms.a1] hin none 0

/-- hypotheses of `recovery_progress`: in the run on `a a` the step out of `'find_state` (after the
    second `a` was dropped) continues at the end of input; with a token lookahead the shape is
    `(c', .act t i)` -/
example : ∃ c c', run GenericThms.T4 5 none 0 5 (init 0 [.tok GenericThms.a0, .tok GenericThms.a1]) .pull
      = (c, .recFind (some (GenericThms.a1, 0)) (.unrecognizedToken GenericThms.a1 []) [] 2 false) ∧
    (step GenericThms.T4 5 none 0 c
      (.recFind (some (GenericThms.a1, 0)) (.unrecognizedToken GenericThms.a1 []) [] 2 false)).1 = c' :=
  ⟨_, _, rfl, rfl⟩

/-- V7 is not implied by the soundness-side shape of tables: `A → ε` reduced at end of input in
    state 0 with `goto(0, A) = 0` never stops; V7 rejects these tables for every fuel we try, and
    their driver is still reducing after 200 steps -/
def loopT : Tables :=
  { nTerm := 1, action := [0], eofAction := [-1], goto := [[0]], prodLen := [0], prodLhs := [0],
    isStart := [false], fallible := [false], usesRecovery := false }

example : checkTerm loopT 100 = false := by decide +kernel
example : (match (run loopT 0 none 0 200 (init 0 []) .pull).2 with
    | .eof => true
    | _ => false) = true := by decide +kernel

end TermExample

end LalrpopModel.LR
