import LalrpopModel.Lemmas.PathEvents
/-!
C23 — each grammar file maps to exactly one output at the documented path.

Theorems about `Model/Path.lean` (`genResolve`, `withExtension`, `lalrpopFiles`, `processFiles`,
`apiProcessDir`, `apiProcessFile`), for all paths, names, trees and configurations.
-/

namespace LalrpopModel.PathM

open LalrpopModel.Build (validUtf8)

variable {v : Variant}

/-! ### `with_extension` (dotted and hidden names) -/

/-- a name without any dot: the extension is appended -/
theorem with_extension_plain (n ext : Name) (h : DOT ∉ n) (hext : ext ≠ []) :
    withExtensionName n ext = some (n ++ DOT :: ext) := by
  have hn : n ≠ [DOT, DOT] := by intro e; apply h; simp [e]
  simp [withExtensionName, extension, fileStem, rsplitDot_noDot n h, hn, hext]

/-- a hidden name (`.name`, no other dot) has no extension: the new one is appended -/
theorem with_extension_hidden (m ext : Name) (h : DOT ∉ m) (hext : ext ≠ []) :
    withExtensionName (DOT :: m) ext = some (DOT :: m ++ DOT :: ext) := by
  have hn : DOT :: m ≠ [DOT, DOT] := by intro e; apply h; simp at e; simp [e]
  simp [withExtensionName, extension, fileStem, rsplitDot_hidden m h, hn, hext]

/-- A dotted name `stem.e` (`e` the part after the LAST dot, `stem` not empty and not just `.`)
    becomes `stem.ext`; `stem` may itself contain dots (`a.b.lalrpop` ↦ `a.b.rs`) or start with one
    (`.hid.lalrpop` ↦ `.hid.rs`). -/
theorem with_extension_spec (s e ext : Name) (he : DOT ∉ e) (hs : s ≠ []) (hs' : s ≠ [DOT])
    (hext : ext ≠ []) :
    withExtensionName (s ++ DOT :: e) ext = some (s ++ DOT :: ext) ∧
    extension (s ++ DOT :: e) = some e := by
  have hext' : extension (s ++ DOT :: e) = some e := by
    rw [extension, rsplitDot_append s e he hs (append_dot_ne_dotdot hs hs' e)]
  refine ⟨?_, hext'⟩
  -- the copied prefix is `s.`: the name without the `e` after its last dot
  have hbase : (s ++ DOT :: e).take ((s ++ DOT :: e).length - e.length) = s ++ [DOT] := by
    rw [List.append_cons, List.length_append, Nat.add_sub_cancel, List.take_left]
  have hstem : fileStem (s ++ [DOT]) = s := by
    rw [fileStem, rsplitDot_append s [] List.not_mem_nil hs (append_dot_ne_dotdot hs hs' [])]
  simp only [withExtensionName, hext', hbase, if_neg (append_dot_ne_dotdot hs hs' []), hstem,
    if_neg hext]

/-- the quirk of `std`: a name of the form `..<ext>` (stem `.`) loses its file name: the component
    becomes `..` (so the "output path" is a directory and the build fails with an io error) -/
theorem with_extension_dotdot (e ext : Name) (he : DOT ∉ e) :
    withExtensionName (DOT :: DOT :: e) ext = none := by
  cases e with
  | nil => simp [withExtensionName, extension, rsplitDot]
  | cons x e =>
    have h1 : extension (DOT :: DOT :: x :: e) = some (x :: e) := by
      have := rsplitDot_append [DOT] (x :: e) he (by simp) (by simp)
      simp at this
      simp [extension, this]
    simp [withExtensionName, h1]

/-! ### `gen_resolve_file`: the documented output path -/

theorem genResolve_of_dir {outDir inDir : Option PathC} {file dir : PathC} {n n' ext : Name}
    (hdir : outDirFor v outDir inDir file = .ok dir) (hn : fileName file = some n)
    (hu : validUtf8 n = true) (hw : containsWs n = false)
    (hx : withExtensionName n ext = some n') :
    genResolve v outDir inDir file ext = .ok (dir ++ [.normal n']) := by
  simp only [genResolve, hdir, hn, hu, hw]
  exact congrArg Except.ok (withExtension_snoc dir n n' ext hx)

/-- **No out dir ⇒ beside the input**: `dir/name` ↦ `dir/stem.ext`. -/
theorem out_path_spec_beside (inDir : Option PathC) (d : PathC) (n n' ext : Name)
    (hu : validUtf8 n = true) (hw : containsWs n = false)
    (hx : withExtensionName n ext = some n') :
    genResolve v none inDir (d ++ [.normal n]) ext = .ok (d ++ [.normal n']) :=
  genResolve_of_dir (outDirFor_noOut inDir d n) (fileName_snoc_normal d n) hu hw hx

/-- **Out dir + in dir (`process_dir`)**: a file `in/rel/name` found under the input directory
    goes to `out/(rel minus ONE leading "src")/stem.ext`. -/
theorem out_path_spec (o root rel : PathC) (n n' ext : Name) (hrel : AllNormal rel)
    (hu : validUtf8 n = true) (hw : containsWs n = false)
    (hx : withExtensionName n ext = some n') :
    genResolve v (some o) (some root) (root ++ rel ++ [.normal n]) ext =
      .ok (o ++ dropSrc rel ++ [.normal n']) :=
  genResolve_of_dir (outDirFor_under o root rel n hrel) (fileName_snoc_normal _ n) hu hw hx

/-- **Single `process_file` with an out dir ⇒ directly in the out dir**, whatever directory the
    input is in. -/
theorem out_path_spec_single_file (o d : PathC) (n n' ext : Name)
    (hu : validUtf8 n = true) (hw : containsWs n = false)
    (hx : withExtensionName n ext = some n') :
    genResolve v (some o) none (d ++ [.normal n]) ext = .ok (o ++ [.normal n']) :=
  genResolve_of_dir (outDirFor_noIn o _) (fileName_snoc_normal d n) hu hw hx

/-- **Names with white space are rejected** (wherever the directory computation succeeds). -/
theorem whitespace_rejected (outDir inDir : Option PathC) (file dir : PathC) (n ext : Name)
    (hdir : outDirFor v outDir inDir file = .ok dir) (hn : fileName file = some n)
    (hu : validUtf8 n = true) (hw : containsWs n = true) :
    genResolve v outDir inDir file ext = .error .whitespace := by
  simp only [genResolve, hdir, hn, hu, hw]
  rfl

/-- …and so `process_file` does nothing for them: no rerun directive, nothing generated -/
theorem whitespace_rejected_no_events (s : Session) (good : PathC → Bool) (file dir : PathC) (n : Name)
    (hdir : outDirFor v s.outDir s.inDir file = .ok dir) (hn : fileName file = some n)
    (hu : validUtf8 n = true) (hw : containsWs n = true) :
    processFile v s good file = ([], .resolveErr .whitespace) := by
  rw [processFile, whitespace_rejected (v := v) s.outDir s.inDir file dir n RS hdir hn hu hw]

/-! ### the walk -/

/-- The files handed to the generator are exactly the regular files (or links to regular files)
    reachable through directories (or links to directories) whose name has the extension `lalrpop`;
    sorting the directory entries does not lose or add any. -/
theorem walk_selects_lalrpop_ext (root : PathC) (t : Node) (fs : List PathC)
    (h : lalrpopFiles root t = some fs) (p : PathC) :
    p ∈ fs ↔ Item.file p ∈ walk root t ∧ hasLalrpopExt p = true := by
  rw [lalrpopFiles_eq_some h, List.mem_filter, mem_filesOf, mem_walk_sortTree]

/-- The files are handed to the generator in the component-wise lexicographic order of their paths
    relative to the walked directory (names compared byte-wise, a directory's files before those of
    the next sibling, independent of the order in which the operating system lists a directory),
    provided no directory has two entries of the same name. -/
theorem walk_order_sorted (root : PathC) (t : Node) (fs : List PathC) (hnd : NoDupTree t)
    (h : lalrpopFiles root t = some fs) :
    ∃ rels : List (List Name), fs = rels.map (absPath root) ∧ rels.Pairwise relLt := by
  rw [lalrpopFiles_eq_some h, filesOf_walk, List.filter_map]
  exact ⟨_, rfl, (relWalk_sortTree_pairwise t hnd).filter _⟩

/-- a walk error that is not a dangling link makes the whole collection fail (nothing is
    processed); dangling links and other non-files are skipped -/
theorem walk_fatal_iff (root : PathC) (t : Node) :
    lalrpopFiles root t = none ↔ ∃ q, Item.fatal q ∈ walk root t := by
  have hany : (walk root (sortTree t)).any Item.isFatal = true ↔ ∃ q, Item.fatal q ∈ walk root t := by
    rw [List.any_eq_true]
    constructor
    · rintro ⟨it, hit, hf⟩
      cases it with
      | file q => cases hf
      | fatal q => exact ⟨q, (mem_walk_sortTree root t _).mp hit⟩
    · rintro ⟨q, hq⟩
      exact ⟨.fatal q, (mem_walk_sortTree root t _).mpr hq, rfl⟩
  rw [lalrpopFiles, ← hany]
  by_cases hf : (walk root (sortTree t)).any Item.isFatal = true
  · rw [if_pos hf]; exact iff_of_true rfl hf
  · rw [if_neg hf]; exact iff_of_false nofun hf

/-- every walked file lies under the walked directory: `root ++ rel` with `rel` made of normal
    components, non-empty when the root is a directory -/
theorem walked_files_under_root (root : PathC) (t : Node) (fs : List PathC)
    (h : lalrpopFiles root t = some fs) (p : PathC) (hp : p ∈ fs) :
    ∃ rel, p = root ++ rel ∧ AllNormal rel ∧ (∀ es, t = .dir es → rel ≠ []) :=
  walk_under root t _ ((walk_selects_lalrpop_ext root t fs h p).mp hp).1

/-- **The `strip_prefix(in_dir).unwrap()` of `gen_resolve_file` cannot panic in `process_dir` on a
    directory**: for every file the walk of a directory yields, the directory part of the output
    path is computed without error. -/
theorem out_path_total (o root : PathC) (es : List (Name × Node)) (fs : List PathC)
    (h : lalrpopFiles root (.dir es) = some fs) (p : PathC) (hp : p ∈ fs) :
    ∃ dir, outDirFor v (some o) (some root) p = .ok dir := by
  obtain ⟨rel, rfl, hn, hne⟩ := walked_files_under_root root _ fs h p hp
  obtain ⟨rel', c, rfl⟩ : ∃ rel' c, rel = rel' ++ [c] :=
    ⟨_, _, (List.dropLast_concat_getLast (hne es rfl)).symm⟩
  obtain ⟨n, rfl⟩ := hn c (List.mem_append_right _ List.mem_cons_self)
  rw [← List.append_assoc]
  exact ⟨_, outDirFor_under o root rel' n fun x hx => hn x (List.mem_append_left _ hx)⟩

/-- …but (code without the fallback) `process_dir` on a path that is itself a regular `.lalrpop`
    FILE does reach the `unwrap` on `None` (a panic instead of an `io::Error`): the walk yields the
    root, whose parent is not under it. -/
theorem process_dir_on_file_panics (hv : v.stripFallback = false) (o root : PathC)
    (hx : hasLalrpopExt root = true) :
    lalrpopFiles root .file = some [root] ∧
    outDirFor v (some o) (some root) root = .error .panicNotUnderInDir := by
  constructor
  · simp [lalrpopFiles, sortTree, walk, Item.isFatal, selectLalrpop, hx]
  · cases hn : fileName root with
    | none =>
      rw [hasLalrpopExt, hn] at hx
      cases hx
    | some n =>
      obtain ⟨d, rfl⟩ := fileName_eq_some hn
      rw [outDirFor_self, hv]
      rfl

/-- with the fallback (`strip_prefix(in_dir).unwrap_or("")`) the file given to `process_dir` is
    written directly into the out dir -/
theorem process_dir_on_file_fixed (hv : v.stripFallback = true) (o root : PathC) (n n' ext : Name)
    (hx : hasLalrpopExt root = true) (hn : fileName root = some n)
    (hu : validUtf8 n = true) (hw : containsWs n = false)
    (hxn : withExtensionName n ext = some n') :
    genResolve v (some o) (some root) root ext = .ok (o ++ [.normal n']) := by
  obtain ⟨d, rfl⟩ := fileName_eq_some hn
  exact genResolve_of_dir (by rw [outDirFor_self, hv]; rfl) hn hu hw hxn

/-- with the fallback the directory part never fails -/
theorem out_dir_total_fixed (hv : v.stripFallback = true) (outDir inDir : Option PathC) (file : PathC) :
    ∃ dir, outDirFor v outDir inDir file = .ok dir := by
  unfold outDirFor
  cases outDir with
  | none => exact ⟨_, rfl⟩
  | some d =>
    cases parent file with
    | none => exact ⟨_, rfl⟩
    | some p =>
      cases inDir with
      | none => exact ⟨_, rfl⟩
      | some ind =>
        simp only [hv, ↓reduceIte]
        cases stripPrefix p ind <;> exact ⟨_, (apply_ite Except.ok _ _ _).symm⟩

/-! ### rerun directives -/

def rerunsOf (ev : List Event) : List PathC :=
  ev.filterMap fun e => match e with
    | .rerun p => some p
    | _ => none

def generatedOf (ev : List Event) : List PathC :=
  ev.filterMap fun e => match e with
    | .generate src _ => some src
    | _ => none

theorem rerunsOf_append (a b : List Event) : rerunsOf (a ++ b) = rerunsOf a ++ rerunsOf b :=
  List.filterMap_append

theorem generatedOf_append (a b : List Event) : generatedOf (a ++ b) = generatedOf a ++ generatedOf b :=
  List.filterMap_append

theorem rerunsOf_rerunEv (s : Session) (f : PathC) :
    rerunsOf (rerunEv s f) = if s.emitRerun then [f] else [] := by
  unfold rerunEv; split <;> rfl

theorem generatedOf_rerunEv (s : Session) (f : PathC) : generatedOf (rerunEv s f) = [] := by
  unfold rerunEv; split <;> rfl

theorem generatedOf_processFile (s : Session) (good : PathC → Bool) (f : PathC) :
    generatedOf (processFile v s good f).1 <+: [f] ∧
    ((processFile v s good f).2 = .ok → generatedOf (processFile v s good f).1 = [f]) := by
  rcases processFile_events (v := v) s good f with ⟨e, h⟩ | ⟨rs, h⟩ | ⟨tail, h, ht⟩
  · rw [h]; exact ⟨List.nil_prefix, Outcome.noConfusion⟩
  · rw [h, generatedOf_append, generatedOf_rerunEv]; exact ⟨List.prefix_rfl, fun _ => rfl⟩
  · have ht' : generatedOf tail = [] := by rcases ht with rfl | ⟨rs, rfl⟩ <;> rfl
    rw [h, generatedOf_append, generatedOf_rerunEv, ht']
    exact ⟨List.nil_prefix, Outcome.noConfusion⟩

theorem rerunsOf_processFile (s : Session) (good : PathC → Bool) (f : PathC) :
    rerunsOf (processFile v s good f).1 <+: (if s.emitRerun then [f] else []) ∧
    ((processFile v s good f).2 = .ok →
      rerunsOf (processFile v s good f).1 = if s.emitRerun then [f] else []) := by
  rcases processFile_events (v := v) s good f with ⟨e, h⟩ | ⟨rs, h⟩ | ⟨tail, h, ht⟩
  · rw [h]; exact ⟨List.nil_prefix, Outcome.noConfusion⟩
  · rw [h, rerunsOf_append, rerunsOf_rerunEv]
    exact ⟨(List.append_nil _).symm ▸ List.prefix_rfl, fun _ => List.append_nil _⟩
  · have ht' : rerunsOf tail = [] := by rcases ht with rfl | ⟨rs, rfl⟩ <;> rfl
    rw [h, rerunsOf_append, rerunsOf_rerunEv, ht', List.append_nil]
    exact ⟨List.prefix_rfl, Outcome.noConfusion⟩

theorem generatedOf_processFiles (s : Session) (good : PathC → Bool) (fs : List PathC) :
    generatedOf (processFiles v s good fs).1 <+: fs ∧
    ((processFiles v s good fs).2 = .ok → generatedOf (processFiles v s good fs).1 = fs) := by
  have := processFiles_obs s good generatedOf _ rfl generatedOf_append
    (generatedOf_processFile (v := v) s good) fs
  rwa [List.flatMap_singleton'] at this

theorem rerunsOf_processFiles (s : Session) (good : PathC → Bool) (fs : List PathC) :
    rerunsOf (processFiles v s good fs).1 <+: (if s.emitRerun then fs else []) ∧
    ((processFiles v s good fs).2 = .ok →
      rerunsOf (processFiles v s good fs).1 = if s.emitRerun then fs else []) := by
  have := processFiles_obs s good rerunsOf _ rfl rerunsOf_append
    (rerunsOf_processFile (v := v) s good) fs
  rwa [flatMap_ite_singleton] at this

/-- When every file is processed successfully, the rerun directives (if enabled) name exactly the
    processed files, in processing order, and these are exactly the files for which output was
    generated. -/
theorem rerun_lists_processed (s : Session) (good : PathC → Bool) (fs : List PathC)
    (hok : (processFiles v s good fs).2 = .ok) :
    generatedOf (processFiles v s good fs).1 = fs ∧
    (s.emitRerun = true → rerunsOf (processFiles v s good fs).1 = fs) ∧
    (s.emitRerun = false → rerunsOf (processFiles v s good fs).1 = []) := by
  have hr := (rerunsOf_processFiles (v := v) s good fs).2 hok
  refine ⟨(generatedOf_processFiles s good fs).2 hok, fun he => ?_, fun he => ?_⟩
  · rwa [he] at hr
  · rwa [he] at hr

/-- in general (also when a file fails) the directives name a prefix of the file list and the
    generated files are a prefix of those: processing stops at the first error -/
theorem rerun_prefix (s : Session) (good : PathC → Bool) (fs : List PathC) :
    (s.emitRerun = false → rerunsOf (processFiles v s good fs).1 = []) ∧
    (s.emitRerun = true → rerunsOf (processFiles v s good fs).1 <+: fs) ∧
    generatedOf (processFiles v s good fs).1 <+: fs := by
  have hr := (rerunsOf_processFiles (v := v) s good fs).1
  refine ⟨fun he => ?_, fun he => ?_, (generatedOf_processFiles s good fs).1⟩
  · rw [he] at hr; exact List.prefix_nil.mp hr
  · rwa [he] at hr

/-! ### `verify_no_in_dir_conflict` -/

/-- For `process_dir(path)`: the call is refused — before anything is walked or written — exactly
    when an input directory was configured and is a different path (component-wise comparison, so
    `./src` and `src` differ). -/
theorem in_dir_conflict_spec (s : Session) (envOut : Option PathC) (good : PathC → Bool) (path : PathC)
    (t : Node) :
    (apiProcessDir v s envOut good path t).2 = .inDirConflict ↔ ∃ q, s.inDir = some q ∧ q ≠ path := by
  have hiff := inDirConflict_iff s (some path)
  simp only [ne_eq, Option.some.injEq] at hiff
  rw [← hiff, apiProcessDir]
  by_cases hc : inDirConflict s (some path) = true
  · rw [if_pos hc]; exact iff_of_true rfl hc
  · rw [if_neg hc]
    refine iff_of_false ?_ hc
    -- past the check the outcome is `missingOutDir`, `walkErr` or that of `processFiles`
    split
    · exact nofun
    · split
      · exact nofun
      · exact processFiles_no_conflict _ _ _

/-- `process_file` is refused exactly when an input directory was configured at all; then nothing
    is printed or generated -/
theorem in_dir_conflict_spec_file (s : Session) (good : PathC → Bool) (file : PathC) :
    ((apiProcessFile v s good file).2 = .inDirConflict ↔ s.inDir.isSome = true) ∧
    (s.inDir.isSome = true → apiProcessFile v s good file = ([], .inDirConflict)) := by
  have hiff : inDirConflict s none = true ↔ s.inDir.isSome = true := by
    rw [inDirConflict_iff, Option.isSome_iff_exists]
    exact exists_congr fun q => and_iff_left nofun
  rw [← hiff, apiProcessFile]
  by_cases hc : inDirConflict s none = true
  · rw [if_pos hc]; exact ⟨iff_of_true rfl hc, fun _ => rfl⟩
  · rw [if_neg hc]; exact ⟨iff_of_false (processFile_no_conflict s good file) hc, fun h => absurd h hc⟩

/-- in `process_file` the directory part of the output never involves `strip_prefix` (no in_dir) -/
theorem process_file_dir_total (s : Session) (file : PathC) (h : s.inDir = none) :
    ∃ dir, outDirFor v s.outDir s.inDir file = .ok dir := by
  rw [h]
  cases s.outDir with
  | none => exact ⟨_, rfl⟩
  | some d => exact ⟨_, outDirFor_noIn d file⟩

end LalrpopModel.PathM
