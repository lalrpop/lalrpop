import LalrpopModel.Lemmas.LRCanonCollapse
import LalrpopModel.Props.C01
/-!
C03 — a grammar is accepted exactly when it is deterministic for the chosen algorithm.

What is proved here, for ALL grammars / states (no sampling):

* (i)   `no_parser_for_ambiguous`: an ambiguous grammar has no tables/automaton/annotation that pass
        `validateComplete` — whatever construction produced them (lane table included). Together
        with the per-run validation of everything lalrpop accepts (`checks/c03.py`, `validate`
        lines) this is "lalrpop never emits a parser for an ambiguous grammar", instance by instance.
* (ii)  `conflicts_iff`: the model of `<TokenSet as Lookahead>::conflicts` (lr1/lookahead.rs) answers
        `[]` exactly when the state's shift map and reduction lookahead sets induce a partial
        function token ↦ action; lifted to whole automata and to the two reference verdicts
        (`lr1_accept_iff_deterministic`, `lalr_accept_iff_deterministic`).
* (iii) `lalr_collapse_spec`: the model of `collapse_to_lalr_states` (lr1/build_lalr/mod.rs) merges
        exactly the states of equal LR(0) kernel (`remap i = remap j ↔ kernels equal`, onto), and in
        a merged state the lookaheads of an LR(0) core / of a reduction are the unions over the merged
        states. (Correspondence, not theorem: that the merged item list has ONE entry per core and is
        ordered — needed for nothing here —, and that the Lean `collapse` is what the Rust computes:
        `iso lalr` lines of the check.)
* (iv)  `reference_is_correct_parser`: a reference automaton that passes `selfCheck` (run for every
        conflict-free reference automaton of every generated grammar) is a sound, complete and
        unambiguous parser for the grammar: "the canonical LR(1) automaton has no conflict" is a
        meaningful acceptance criterion, certified instance by instance.
        `lane_table_sound_partial`: the half of

          theorem lane_table_exact (G : Grammar) :
              lalrpopDefaultAccepts G ↔ ∃ b, buildStates G fuel = some b ∧ b.conflicts = []

        that follows from (i): if the default construction accepts an (in fact any) grammar and what it
        emits passes the validator, the grammar is unambiguous and the parser accepts exactly its
        language; hence for an ambiguous grammar — all of which have canonical LR(1) conflicts by
        `reference_is_correct_parser` read contrapositively — acceptance is impossible without a
        validation failure. The rest of `lane_table_exact` (an LR(1) grammar is never rejected;
        an unambiguous non-LR(1) grammar is never accepted) is NOT proved: the lane-table
        construction is not modelled. It is the correspondence `verdict lr1 algo=lane` of the check,
        which fails on the real code (known findings `lane-table-rejects-LR1-grammar:*`).
-/
namespace LalrpopModel.LR.Canon

open LalrpopModel.LR

/-! ### (i) no parser for an ambiguous grammar -/

/-- two derivation trees of the start symbol `S` with the same token kinds but different skeletons -/
def Ambiguous (G : Grammar) (S : NT) : Prop :=
  ∃ t₁ t₂ : Tree, Tree.WF G none t₁ ∧ t₁.root G none = some (Sym.n S) ∧
    Tree.WF G none t₂ ∧ t₂.root G none = some (Sym.n S) ∧
    t₁.yield.map (·.kind) = t₂.yield.map (·.kind) ∧ t₁.skeleton ≠ t₂.skeleton

theorem not_ambiguous_of_validateComplete {G : Grammar} {T : Tables} {A : Automaton} {ann : Ann}
    {S : NT} (hS : G.startSym = some S) (hv : validateComplete G T A ann = true) :
    ¬ Ambiguous G S := by
  rintro ⟨t₁, t₂, w₁, r₁, w₂, r₂, hy, hne⟩
  exact hne (validated_unambiguous hv t₁ t₂ S hS w₁ r₁ w₂ r₂ hy)

theorem no_parser_for_ambiguous (G : Grammar) (S : NT) (hS : G.startSym = some S)
    (hamb : Ambiguous G S) :
    ¬ ∃ (T : Tables) (A : Automaton) (ann : Ann), validateComplete G T A ann = true :=
  fun ⟨_, _, _, hv⟩ => not_ambiguous_of_validateComplete hS hv hamb

/-! ### (ii) `TokenSet::conflicts` -/

/-- `<TokenSet as Lookahead>::conflicts(state)` is empty iff every token has at most one action in
    the state (its shift, or one reduction whose lookahead set contains it) -/
theorem conflicts_iff (st : State) : conflicts st = [] ↔ Deterministic st :=
  conflicts_nil_iff st

/-- spelled out: no terminal with a shift lies in a reduction's lookahead, and no token lies in the
    lookahead sets of two reductions -/
theorem conflicts_iff_sets (st : State) :
    conflicts st = [] ↔
      (∀ sh ∈ st.shifts, ∀ r ∈ st.reductions, sh.1 ∉ r.1) ∧
      st.reductions.Pairwise (fun a b => ∀ x, x ∈ a.1 → x ∉ b.1) := by
  rw [conflicts_iff, deterministic_iff]

/-- the canonical LR(1) reference accepts iff the construction ends and every state it built is
    deterministic -/
theorem lr1_accept_iff_deterministic (G : Grammar) (fuel : Nat) (sts : List State) :
    lr1Verdict G fuel = .accept sts ↔
      ∃ b, buildStates G fuel = some b ∧ b.states = sts ∧ ∀ st ∈ sts, Deterministic st := by
  unfold lr1Verdict
  cases hb : buildStates G fuel with
  | none => simp
  | some b =>
    simp only [accept_iff_deterministic (buildStates_conflicts hb), Option.some.injEq,
      exists_eq_left']

/-- the LALR(1) reference accepts iff the canonical one does, the collapse does not trip an
    assertion, and every merged state is deterministic -/
theorem lalr_accept_iff_deterministic (G : Grammar) (fuel : Nat) (sts : List State) :
    lalrVerdict G fuel = .accept sts ↔
      ∃ sts₁ b remap, lr1Verdict G fuel = .accept sts₁ ∧ collapse sts₁ = .ok b remap ∧
        b.states = sts ∧ ∀ st ∈ sts, Deterministic st := by
  constructor
  · intro h
    unfold lalrVerdict at h
    split at h
    · rename_i sts₁ h1
      split at h
      · rename_i b remap hc
        exact ⟨sts₁, b, remap, h1, hc, (accept_iff_deterministic (collapse_ok hc).2.2.2 sts).1 h⟩
      · cases h
    · rename_i hne
      exact absurd h (hne sts)
  · rintro ⟨sts₁, b, remap, h1, hc, h⟩
    rw [lalrVerdict, h1]
    simp only [hc]
    exact (accept_iff_deterministic (collapse_ok hc).2.2.2 sts).2 h

/-! ### (iii) the LALR collapse -/

/-- `collapse_to_lalr_states`:
    1. `remap` has one entry per LR(1) state and two states are sent to the same LALR state iff
       their LR(0) kernels are equal;
    2. every entry is an index of a built LALR state and every LALR state is the image of some state;
    3. in LALR state `k`, token `tok` is a lookahead of the LR(0) core `c` iff it is one in some
       LR(1) state sent to `k` (lookaheads are unioned, nothing is lost or invented), and the same
       for the lookahead of each reduction;
    4. the reported conflicts are those of the merged states. -/
theorem lalr_collapse_spec (states : List State) (b : Built) (remap : List Nat)
    (h : collapse states = .ok b remap) :
    remap.length = states.length ∧
    (∀ (i j : Nat) (s₁ s₂ : State) (m n : Nat), states[i]? = some s₁ → states[j]? = some s₂ →
        remap[i]? = some m → remap[j]? = some n → (m = n ↔ lr0Kernel s₁ = lr0Kernel s₂)) ∧
    (∀ (i m : Nat), remap[i]? = some m → m < b.states.length) ∧
    (∀ k : Nat, k < b.states.length → ∃ i : Nat, remap[i]? = some k) ∧
    (∀ (k : Nat) (st : State), b.states[k]? = some st →
        (∀ c tok, HasLa st.items c tok ↔
           ∃ (i : Nat) (s : State), states[i]? = some s ∧ remap[i]? = some k ∧ HasLa s.items c tok) ∧
        (∀ p tok, RedLa st.reductions p tok ↔
           ∃ (i : Nat) (s : State), states[i]? = some s ∧ remap[i]? = some k ∧ RedLa s.reductions p tok)) ∧
    b.conflicts = b.states.flatMap conflicts := by
  obtain ⟨rfl, hlen, hst, hconf⟩ := internAll_eq_assign _ _ ▸ collapse_ok h
  -- the number of a state is the position of its kernel among the distinct kernels
  have hpos : ∀ {i : Nat} {s : State} {m : Nat}, states[i]? = some s →
      (SymVariant.assign (states.map lr0Kernel) []).1[i]? = some m →
      SymVariant.pos (lr0Kernel s) (SymVariant.assign (states.map lr0Kernel) []).2 = some m :=
    fun hs hm => (SymVariant.assign_getElem? (by rw [List.getElem?_map, hs]; rfl)).symm.trans hm
  refine ⟨by rw [SymVariant.assign_length, List.length_map], ?_, ?_, ?_, ?_, hconf⟩
  · intro i j s₁ s₂ m n h1 h2 h3 h4
    exact SymVariant.pos_eq_iff (hpos h1 h3) (hpos h2 h4)
  · intro i m hm
    rw [hlen]
    exact SymVariant.assign_lt hm
  · intro k hk
    exact List.getElem?_of_mem (SymVariant.assign_onto _ [] (Nat.zero_le k) (hlen ▸ hk))
  · intro k st hk
    exact ⟨lalrState_hasLa (hst k st hk), lalrState_redLa (hst k st hk)⟩

/-! ### (iv) the reference automaton is a correct parser; the lane-table half that follows -/

/-- What a passed `selfCheck` certifies about a reference automaton `sts` (encoded as the tables
    `toTables G (toAutomaton …)` that lalrpop's table writer would emit for it): the driver run on
    those tables accepts only sentences of `G` (returning a derivation tree over exactly the input),
    accepts every sentence of `G`, and `G` is unambiguous. -/
theorem reference_is_correct_parser (G : Grammar) (sts : List State) (S : NT)
    (hS : G.startSym = some S) (hc : selfCheck G sts = true) :
    let A := toAutomaton G.nTerm sts
    let T := toTables G A
    (∀ (input : List LR.Item) (failAt : Option Nat) (startLoc : Int) (c : Cfg) (v : Tree),
        InRange T input → Returns T failAt startLoc input c (.ok v) →
        Tree.WF G none v ∧ v.root G none = some (Sym.n S) ∧ input = v.yield.map LR.Item.tok) ∧
    (∀ (w : List Term) (toks : List Tok), Derives G S w → toks.map (·.kind) = w.map some →
        ∀ startLoc : Int, ∃ c v, Returns T none startLoc (toks.map LR.Item.tok) c (.ok v) ∧ v.yield = toks) ∧
    ¬ Ambiguous G S := by
  intro A T
  obtain ⟨hsound, hcomplete⟩ : validateSound G T A = true ∧
      validateComplete G T A (computeAnn G T A.states.length) = true := Bool.and_eq_true_iff.1 hc
  have hrec : T.usesRecovery = false := rfl
  refine ⟨?_, ?_, ?_⟩
  · intro input failAt startLoc c v hin hr
    have h1 := drive_sound hsound hin hS hr
    have h2 := drive_yield hsound hin hrec hr
    have he : errT T = none := by simp [errT, hrec]
    rw [he] at h1
    exact ⟨h1.1, h1.2, h2.1⟩
  · intro w toks hd hk startLoc
    obtain ⟨c, v, hr, _, _, hy⟩ :=
      derives_implies_ok hcomplete S hS w hd toks hk none (Or.inl rfl) startLoc
    exact ⟨c, v, hr, hy⟩
  · exact not_ambiguous_of_validateComplete hS hcomplete

/-- the canonical LR(1) verdict `accept`, once its automaton passed `selfCheck`, excludes ambiguity:
    every ambiguous grammar either has a canonical LR(1) conflict (or runs out of fuel) or its
    reference automaton fails the check — which the run reports -/
theorem ambiguous_not_accepted_by_reference (G : Grammar) (S : NT) (hS : G.startSym = some S)
    (hamb : Ambiguous G S) (fuel : Nat) (sts : List State)
    (_hacc : lr1Verdict G fuel = .accept sts) : selfCheck G sts = false := by
  cases hc : selfCheck G sts with
  | false => rfl
  | true => exact absurd hamb (reference_is_correct_parser G sts S hS hc).2.2

/-- The proved half of `lane_table_exact` (see the header): whatever lalrpop's default (lane table)
    construction — or any other — emits for `G`, if it passes the validator then `G` is
    unambiguous and the emitted parser accepts exactly the sentences of `G` (no recovery). So
    accepting an ambiguous grammar necessarily shows up as a failed `validate` line. -/
theorem lane_table_sound_partial (G : Grammar) (T : Tables) (A : Automaton) (ann : Ann) (S : NT)
    (hS : G.startSym = some S) (hs : validateSound G T A = true)
    (hc : validateComplete G T A ann = true) (hrec : T.usesRecovery = false) :
    ¬ Ambiguous G S ∧
    (∀ (w : List Term) (toks : List Tok), toks.map (·.kind) = w.map some → (∀ a ∈ w, a < T.nTerm) →
      (Derives G S w ↔ ∃ c v, Returns T none 0 (toks.map LR.Item.tok) c (.ok v))) := by
  refine ⟨not_ambiguous_of_validateComplete hS hc, fun w toks hk hshape => ?_⟩
  have hin : KindsInRange T toks := fun t ht k hkk => by
    have hm : some k ∈ w.map some := hk ▸ List.mem_map.2 ⟨t, ht, hkk⟩
    obtain ⟨a, ha, he⟩ := List.mem_map.1 hm
    exact Option.some.inj he ▸ hshape a ha
  have hv : validate G T A ann = true := Bool.and_eq_true_iff.2 ⟨hs, hc⟩
  rw [accepts_iff_derives hv hrec hS toks hin none (Or.inl rfl) 0]
  constructor
  · exact fun hd => ⟨w, hk, hd⟩
  · rintro ⟨w', hk', hd⟩
    exact (List.map_inj_right fun _ _ => Option.some.inj).1 (hk.symm.trans hk') ▸ hd

/-! ### the hypotheses are satisfiable, the conclusions not vacuous -/

/-- reduce/reduce on EOF (bit 2) and shift/reduce on terminal 0 -/
def exConflicting : State :=
  { index := 0, items := [⟨0, 1, [0, 2]⟩, ⟨1, 1, [2]⟩, ⟨2, 0, [2]⟩],
    shifts := [(0, 1)], reductions := [([0, 2], 0), ([2], 1)], gotos := [] }

/-- the same state with disjoint lookaheads -/
def exConsistent : State :=
  { index := 0, items := [⟨0, 1, [1]⟩, ⟨1, 1, [2]⟩, ⟨2, 0, [2]⟩],
    shifts := [(0, 1)], reductions := [([1], 0), ([2], 1)], gotos := [] }

example : conflicts exConflicting =
    [⟨0, [0], 0, .shift 0 1⟩, ⟨0, [2], 0, .reduce 1⟩] := by decide
example : ¬ Deterministic exConflicting := fun h => by
  have := (conflicts_iff exConflicting).2 h
  exact absurd this (by decide)
example : conflicts exConsistent = [] := by decide
example : Deterministic exConsistent := (conflicts_iff exConsistent).1 (by decide)

/-- `N0 → a N1 c | a N2 d | b N2 c | b N1 d`, `N1 → e`, `N2 → e`, `S' → N0`: LR(1) but not LALR(1) -/
def exLr1NotLalr : Grammar :=
  { prods := [⟨0, [.t 0, .n 1, .t 2]⟩, ⟨0, [.t 0, .n 2, .t 3]⟩, ⟨0, [.t 1, .n 2, .t 2]⟩,
              ⟨0, [.t 1, .n 1, .t 3]⟩, ⟨1, [.t 4]⟩, ⟨2, [.t 4]⟩, ⟨3, [.n 0]⟩],
    nTerm := 5, nNT := 4, startProd := 6 }

/-- The verdicts on `exLr1NotLalr`: canonical LR(1) accepts, LALR(1) reports a conflict, and the
    canonical automaton (14 states) passes `selfCheck`. The three examples below are its
    projections. -/
theorem exLr1NotLalr_verdicts :
    (lr1Verdict exLr1NotLalr 100).isAccept = true ∧
    (lalrVerdict exLr1NotLalr 100).isConflict = true ∧
    (match lr1Verdict exLr1NotLalr 100 with
      | .accept sts => sts.length == 14 && selfCheck exLr1NotLalr sts
      | _ => false) = true := by decide +kernel

example : (lr1Verdict exLr1NotLalr 100).isAccept = true := exLr1NotLalr_verdicts.1
example : (lalrVerdict exLr1NotLalr 100).isConflict = true := exLr1NotLalr_verdicts.2.1

/-- the canonical automaton of this grammar (14 states) passes `selfCheck`, so
    `reference_is_correct_parser` applies to it -/
example : (match lr1Verdict exLr1NotLalr 100 with
    | .accept sts => sts.length == 14 && selfCheck exLr1NotLalr sts
    | _ => false) = true := exLr1NotLalr_verdicts.2.2

/-- `E → E + E | a`, `S' → E`: ambiguous -/
def exAmbig : Grammar :=
  { prods := [⟨0, [.n 0, .t 0, .n 0]⟩, ⟨0, [.t 1]⟩, ⟨1, [.n 0]⟩], nTerm := 2, nNT := 2, startProd := 2 }

def tokA (i : Nat) : Tok := ⟨0, some 1, i, 0⟩
def tokP (i : Nat) : Tok := ⟨0, some 0, i, 0⟩
def leafA (i : Nat) : Tree := .node 1 0 0 (.cons (.leaf (tokA i)) .nil)
def plus (l : Tree) (i : Nat) (r : Tree) : Tree := .node 0 0 0 (.cons l (.cons (.leaf (tokP i)) (.cons r .nil)))

theorem leafA_wf (i : Nat) : Tree.WF exAmbig none (leafA i) :=
  .node 1 0 0 ⟨0, [.t 1]⟩ _ rfl (.cons _ _ _ _ (.leaf _ 1 rfl) rfl .nil)

theorem plus_wf {l r : Tree} (i : Nat) (hl : Tree.WF exAmbig none l) (hr : Tree.WF exAmbig none r)
    (rl : l.root exAmbig none = some (Sym.n 0)) (rr : r.root exAmbig none = some (Sym.n 0)) :
    Tree.WF exAmbig none (plus l i r) :=
  .node 0 0 0 ⟨0, [.n 0, .t 0, .n 0]⟩ _ rfl
    (.cons _ _ _ _ hl rl (.cons _ _ _ _ (.leaf _ 0 rfl) rfl (.cons _ _ _ _ hr rr .nil)))

/-- `a + a + a` grouped to the left and to the right -/
theorem exAmbig_ambiguous : Ambiguous exAmbig 0 :=
  ⟨plus (plus (leafA 0) 1 (leafA 2)) 3 (leafA 4), plus (leafA 0) 1 (plus (leafA 2) 3 (leafA 4)),
    plus_wf 3 (plus_wf 1 (leafA_wf 0) (leafA_wf 2) rfl rfl) (leafA_wf 4) rfl rfl, rfl,
    plus_wf 1 (leafA_wf 0) (plus_wf 3 (leafA_wf 2) (leafA_wf 4) rfl rfl) rfl rfl, rfl,
    by decide, by simp [plus, leafA, tokA, tokP, Tree.skeleton, Forest.skeleton]⟩

example : exAmbig.startSym = some 0 := by decide

/-- hence nothing validates for it … -/
example : ¬ ∃ T A ann, validateComplete exAmbig T A ann = true :=
  no_parser_for_ambiguous exAmbig 0 (by decide) exAmbig_ambiguous

/-- … and the reference construction does report a conflict -/
example : (lr1Verdict exAmbig 100).isConflict = true := by decide +kernel

end LalrpopModel.LR.Canon
