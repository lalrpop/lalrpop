import LalrpopModel.Model.TokCheck
import LalrpopModel.Lemmas.Sort
import LalrpopModel.Lemmas.Except
/-!
C09 (precedence part) — the pattern list handed to the runtime lexer is ordered by the
documented precedence.

Theorems about `TokCheck.matchEntries` / `TokCheck.patterns` (model of `MatchBlock::new`,
`add_match_entry`, `add_literal_from_grammar`, the sort in `construct`, and the pattern list of
`intern_token::compile`), for all `match` blocks and all terminal sequences.  Together with
`longest_then_highest` (Props/C09: among the longest matches the *greatest pattern index* wins)
they say: an earlier `match` rung beats a later one, a quoted literal beats a regex of the same
rung, literals picked up by `_` (or without a `match` block) get the rung of the `_` (resp. rung
value 0), and the implicit whitespace skip, present iff there is no skip entry, has the greatest
index of all.
-/
namespace LalrpopModel.TokCheck
open LalrpopModel.Dfa (isort insertBy isort_perm insertBy_perm mem_isort)


/-- `e` is the entry of item `it` of the rung with group precedence `g` -/
def FromItem (g : Nat) (it : Item) (e : Entry) : Prop :=
  (it = .unmapped e.lit ∧ e.user = .term (.lit e.lit) ∨ it = .mapped e.lit e.user) ∧
    e.prec = 2 * g + e.lit.base

theorem addMatchEntry_entries {b b' : Block} {g : Nat} {sym : Lit} {user : Mapping}
    (h : addMatchEntry b g sym user = .ok b') :
    b'.entries = b.entries ++ [{ prec := g * 2 + sym.base, lit := sym, user := user }] ∧
      b'.catchAll = b.catchAll := by
  unfold addMatchEntry at h
  by_cases hc : b.spans.contains sym = true
  · rw [if_pos hc] at h; cases h
  · rw [if_neg hc] at h; cases h; exact ⟨rfl, rfl⟩

/-- `b'` is `b` after the items `items` of a rung with group precedence `g` -/
structure RungExt (g : Nat) (items : List Item) (b b' : Block) : Prop where
  entries : ∀ e, e ∈ b'.entries → e ∈ b.entries ∨ ∃ it, it ∈ items ∧ FromItem g it e
  catchAll : b'.catchAll = b.catchAll ∨ (Item.catchAll ∈ items ∧ b'.catchAll = some g)

namespace RungExt

theorem cons_entry {g : Nat} {it : Item} {rest : List Item} {b b1 b' : Block} {sym : Lit}
    {user : Mapping} (h1 : addMatchEntry b g sym user = .ok b1)
    (hit : it = .unmapped sym ∧ user = .term (.lit sym) ∨ it = .mapped sym user)
    (h : RungExt g rest b1 b') : RungExt g (it :: rest) b b' := by
  obtain ⟨he, hc⟩ := addMatchEntry_entries h1
  constructor
  · intro e hm
    rcases h.entries e hm with hm | ⟨it', hit', hf⟩
    · rw [he] at hm
      rcases List.mem_append.mp hm with hm | hm
      · exact .inl hm
      · cases List.mem_singleton.mp hm
        exact .inr ⟨it, List.mem_cons_self, hit, Nat.mul_comm g 2 ▸ rfl⟩
    · exact .inr ⟨it', List.mem_cons_of_mem _ hit', hf⟩
  · rcases h.catchAll with h' | ⟨h', h''⟩
    · exact .inl (h'.trans hc)
    · exact .inr ⟨List.mem_cons_of_mem _ h', h''⟩

theorem cons_catchAll {g : Nat} {rest : List Item} {b b' : Block}
    (h : RungExt g rest { b with catchAll := some g } b') : RungExt g (.catchAll :: rest) b b' := by
  constructor
  · intro e hm
    rcases h.entries e hm with hm | ⟨it, hit, hf⟩
    · exact .inl hm
    · exact .inr ⟨it, List.mem_cons_of_mem _ hit, hf⟩
  · rcases h.catchAll with h' | ⟨h', h''⟩
    · exact .inr ⟨List.mem_cons_self, h'⟩
    · exact .inr ⟨List.mem_cons_of_mem _ h', h''⟩

end RungExt

theorem addRung_spec (g : Nat) (items : List Item) (b b' : Block) (h : addRung g items b = .ok b') :
    RungExt g items b b' := by
  induction items generalizing b with
  | nil =>
    cases h
    exact ⟨fun e he => .inl he, .inl rfl⟩
  | cons it rest ih =>
    cases it with
    | catchAll => exact .cons_catchAll (ih _ h)
    | unmapped sym =>
      obtain ⟨b1, h1, h2⟩ := bind_eq_ok h
      exact .cons_entry h1 (.inl ⟨rfl, rfl⟩) (ih b1 h2)
    | mapped sym user =>
      obtain ⟨b1, h1, h2⟩ := bind_eq_ok h
      exact .cons_entry h1 (.inr rfl) (ih b1 h2)

/-- **rung precedences.** Every entry produced from the `match` block comes from an item of some
rung `k` and has precedence `2 * (number of rungs − k) + (1 if quoted, 0 if regex)`; the
catch-all precedence, if set, is `number of rungs − k` for a rung `k` containing `_`. -/
theorem addRungs_spec (total : Nat) : ∀ (rungs : List (List Item)) (idx : Nat) (b b' : Block),
    addRungs total idx rungs b = .ok b' →
    (∀ e, e ∈ b'.entries → e ∈ b.entries ∨
      ∃ k rung it, rungs[k]? = some rung ∧ it ∈ rung ∧ FromItem (total - (idx + k)) it e) ∧
    (b'.catchAll = b.catchAll ∨
      ∃ k rung, rungs[k]? = some rung ∧ Item.catchAll ∈ rung ∧ b'.catchAll = some (total - (idx + k)))
  | rungs, idx, b, b', h => by
    induction rungs generalizing idx b with
    | nil =>
      cases h
      exact ⟨fun e he => .inl he, .inl rfl⟩
    | cons rung rest ih =>
      obtain ⟨b1, h1, h2⟩ := bind_eq_ok h
      have r := addRung_spec (total - idx) rung b b1 h1
      obtain ⟨ih1, ih2⟩ := ih (idx + 1) b1 h2
      -- rung `k` of the rest is rung `k + 1` here
      have shift : ∀ k, idx + 1 + k = idx + (k + 1) := fun k => Nat.add_right_comm idx 1 k
      refine ⟨fun e hm => ?_, ?_⟩
      · rcases ih1 e hm with hm' | ⟨k, rg, it, hk, hit, hf⟩
        · rcases r.entries e hm' with hm'' | ⟨it, hit, hf⟩
          · exact .inl hm''
          · exact .inr ⟨0, rung, it, rfl, hit, hf⟩
        · exact .inr ⟨k + 1, rg, it, List.getElem?_cons_succ.trans hk, hit, shift k ▸ hf⟩
      · rcases ih2 with h' | ⟨k, rg, hk, hc, hv⟩
        · rcases r.catchAll with h'' | ⟨h'', h3⟩
          · exact .inl (h'.trans h'')
          · exact .inr ⟨0, rung, rfl, h'', h'.trans h3⟩
        · exact .inr ⟨k + 1, rg, List.getElem?_cons_succ.trans hk, hc, shift k ▸ hv⟩

theorem addLiteralFromGrammar_ok {b b1 : Block} {l : Lit} (h : addLiteralFromGrammar b l = .ok b1) :
    b1.catchAll = b.catchAll ∧ (b1.entries = b.entries ∨ ∃ p, b.catchAll = some p ∧
      b1.entries = b.entries ++ [{ prec := p * 2 + l.base, lit := l, user := .term (.lit l) }]) := by
  rw [addLiteralFromGrammar] at h
  by_cases hc : b.userNames.contains (.lit l) = true
  · rw [if_pos hc] at h; cases h; exact ⟨rfl, .inl rfl⟩
  · rw [if_neg hc] at h
    cases hp : b.catchAll with
    | none => rw [hp] at h; cases h
    | some p => rw [hp] at h; cases h; exact ⟨rfl, .inr ⟨p, rfl, rfl⟩⟩

/-- **literals from the grammar.** `add_literal_from_grammar` never changes the catch-all; every
entry it adds is the identity mapping of a literal used in the grammar, with precedence
`2 * catch-all + base`.  (`ts` is the part of the terminal list `ts0` still to visit: stated so
for the induction; take `ts0 = ts`.) -/
theorem visitTerminals_spec (ts0 ts : List Term) (b b' : Block)
    (h : visitTerminals ts b = .ok b') (hsub : ∀ t, t ∈ ts → t ∈ ts0) :
    b'.catchAll = b.catchAll ∧
    ∀ e, e ∈ b'.entries → e ∈ b.entries ∨
      (Term.lit e.lit ∈ ts0 ∧ e.user = .term (.lit e.lit) ∧ ∃ p, b.catchAll = some p ∧ e.prec = 2 * p + e.lit.base) := by
  induction ts generalizing b with
  | nil =>
    cases h
    exact ⟨rfl, fun e he => .inl he⟩
  | cons t rest ih =>
    have hrest : ∀ t, t ∈ rest → t ∈ ts0 := fun t ht => hsub t (List.mem_cons_of_mem _ ht)
    cases t with
    | lit l =>
      obtain ⟨b1, h1, h2⟩ := bind_eq_ok h
      obtain ⟨ihc, ihe⟩ := ih b1 h2 hrest
      obtain ⟨hc, he⟩ := addLiteralFromGrammar_ok h1
      refine ⟨ihc.trans hc, fun e hm => ?_⟩
      rcases ihe e hm with hm | hnew
      · rcases he with he | ⟨p, hp, he⟩
        · exact .inl (he ▸ hm)
        · rw [he] at hm
          rcases List.mem_append.mp hm with hm | hm
          · exact .inl hm
          · cases List.mem_singleton.mp hm
            exact .inr ⟨hsub _ List.mem_cons_self, rfl, p, hp, Nat.mul_comm p 2 ▸ rfl⟩
      · exact .inr (hc ▸ hnew)
    | bare s =>
      rw [visitTerminals] at h
      by_cases hc : b.userNames.contains (.bare s) = true
      · rw [if_pos hc] at h; exact ih b h hrest
      · rw [if_neg hc] at h; cases h
    | error => exact ih b h hrest


theorem entryLe_true {a b : Entry} (h : entryLe a b = true) : a.prec ≤ b.prec := by
  simp only [entryLe, Bool.or_eq_true, decide_eq_true_eq, Bool.and_eq_true, beq_iff_eq] at h
  omega

theorem entryLe_false {a b : Entry} (h : entryLe a b = false) : b.prec ≤ a.prec := by
  simp only [entryLe, Bool.or_eq_false_iff, decide_eq_false_iff_not, Bool.and_eq_false_iff,
    beq_eq_false_iff_ne, ne_eq] at h
  omega

theorem index_lt_of_key_lt {α : Type} {f : α → Nat} {l : List α}
    (hs : l.Pairwise fun a b => f a ≤ f b) {i j : Nat} {a b : α} (hi : l[i]? = some a)
    (hj : l[j]? = some b) (hlt : f a < f b) : i < j := by
  refine Nat.lt_of_not_le fun hji => ?_
  obtain ⟨hi', rfl⟩ := List.getElem?_eq_some_iff.mp hi
  obtain ⟨hj', rfl⟩ := List.getElem?_eq_some_iff.mp hj
  rcases Nat.lt_or_eq_of_le hji with hji | rfl
  · exact Nat.not_le_of_lt hlt (List.pairwise_iff_getElem.mp hs j i hj' hi' hji)
  · exact Nat.lt_irrefl _ hlt

/-- **the sort orders by precedence.** In `InternToken::match_entries` (the sorted list) an entry
of strictly higher precedence stands strictly later, i.e. gets the greater pattern index — the
one `Matcher::next` prefers among equally long matches. The list is a permutation of the
collected entries. -/
theorem precedence_order_spec (mt : Option (List (List Item))) (ts : List Term) (es : List Entry)
    (h : matchEntries mt ts = .ok es) :
    (∀ (i j : Nat) (e1 e2 : Entry), es[i]? = some e1 → es[j]? = some e2 → e1.prec < e2.prec → i < j) ∧
    ∃ b0 b, Block.new mt = .ok b0 ∧ visitTerminals ts b0 = .ok b ∧ es.Perm b.entries := by
  obtain ⟨b0, h0, h⟩ := bind_eq_ok h
  obtain ⟨b, h1, h⟩ := bind_eq_ok h
  cases h
  refine ⟨fun i j e1 e2 hi hj hlt => ?_, b0, b, h0, h1, isort_perm _ _⟩
  have hs : (isort entryLe b.entries).Pairwise fun a b => a.prec ≤ b.prec :=
    Dfa.isort_pairwise (le := entryLe) (R := fun a b => a.prec ≤ b.prec) (fun _ _ _ => Nat.le_trans)
      (fun _ _ => entryLe_true) (fun _ _ => entryLe_false) _
  exact index_lt_of_key_lt hs hi hj hlt

theorem Lit.base_le_one (l : Lit) : l.base ≤ 1 := by
  cases l
  · exact Nat.le_refl 1
  · exact Nat.zero_le 1

/-- **documented precedence, arithmetically.** With `total` rungs, an entry of an earlier rung has
strictly greater precedence than any entry of a later rung, whatever their kinds; within a rung a
quoted literal has strictly greater precedence than a regex. -/
theorem rung_precedence_order {total k1 k2 : Nat} {it1 it2 : Item} {e1 e2 : Entry}
    (h1 : FromItem (total - k1) it1 e1) (h2 : FromItem (total - k2) it2 e2) (hk : k1 < k2) (hk2 : k2 < total) :
    e2.prec < e1.prec := by
  have hlt : total - k2 < total - k1 := Nat.sub_lt_sub_left (Nat.lt_trans hk hk2) hk
  rw [h1.2, h2.2]
  calc 2 * (total - k2) + e2.lit.base
      < 2 * (total - k2) + 2 := Nat.add_lt_add_left (Nat.lt_succ_of_le e2.lit.base_le_one) _
    _ ≤ 2 * (total - k1) := Nat.mul_le_mul_left 2 hlt
    _ ≤ 2 * (total - k1) + e1.lit.base := Nat.le_add_right _ _

theorem literal_over_regex {g : Nat} {it1 it2 : Item} {e1 e2 : Entry} {s1 s2 : List Nat}
    (h1 : FromItem g it1 e1) (h2 : FromItem g it2 e2) (hq : e1.lit = .quoted s1) (hr : e2.lit = .regex s2) :
    e2.prec < e1.prec := by
  rw [h1.2, h2.2, hq, hr]
  exact Nat.add_lt_add_left Nat.zero_lt_one _

/-- without a `match` block: catch-all precedence 0, so quoted literals get 1 and regexes 0 -/
theorem no_match_block (ts : List Term) (b : Block) (h : visitTerminals ts { catchAll := some 0 } = .ok b) :
    ∀ e, e ∈ b.entries → e.prec = e.lit.base ∧ e.user = .term (.lit e.lit) := by
  intro e he
  rcases (visitTerminals_spec ts ts _ b h fun _ ht => ht).2 e he with h' | ⟨_, hu, p, hp, hprec⟩
  · cases h'
  · simp only [Option.some.injEq] at hp
    subst hp
    exact ⟨by omega, hu⟩


abbrev entryPattern (e : Entry) : Pattern := (some e.lit, decide (e.user = .skip))

theorem any_skip_iff (es : List Entry) :
    (es.map entryPattern).any (·.2) = true ↔ ∃ e : Entry, e ∈ es ∧ e.user = Mapping.skip := by
  simp only [List.any_map, List.any_eq_true, Function.comp_apply, decide_eq_true_eq]

theorem patterns_of_skip {es : List Entry} (h : ∃ e : Entry, e ∈ es ∧ e.user = Mapping.skip) :
    patterns es = es.map entryPattern :=
  if_pos ((any_skip_iff es).mpr h)

theorem patterns_of_noSkip {es : List Entry} (h : ∀ e : Entry, e ∈ es → e.user ≠ Mapping.skip) :
    patterns es = es.map entryPattern ++ [(none, true)] :=
  if_neg fun hany => let ⟨e, he, hs⟩ := (any_skip_iff es).mp hany; h e he hs

/-- **the implicit whitespace skip.** If no entry is a skip entry, the pattern list is the entries
in order followed by the implicit skip, which therefore has the greatest index; otherwise it is
just the entries in order. In both cases the `i`-th entry is pattern `i` (the `Token(i, _)`
pattern of its terminal). -/
theorem patterns_spec (es : List Entry) :
    (∀ (i : Nat) (e : Entry), es[i]? = some e →
      (patterns es)[i]? = some (some e.lit, decide (e.user = Mapping.skip))) ∧
    ((∀ e : Entry, e ∈ es → e.user ≠ Mapping.skip) →
      (patterns es).length = es.length + 1 ∧ (patterns es)[es.length]? = some (none, true)) ∧
    ((∃ e : Entry, e ∈ es ∧ e.user = Mapping.skip) → (patterns es).length = es.length) := by
  refine ⟨fun i e h => ?_, fun hno => ?_, fun hsk => ?_⟩
  · have hmap : (es.map entryPattern)[i]? = some (entryPattern e) := by
      rw [List.getElem?_map, h]; rfl
    by_cases hsk : ∃ e : Entry, e ∈ es ∧ e.user = Mapping.skip
    · rw [patterns_of_skip hsk]; exact hmap
    · rw [patterns_of_noSkip fun e he hs => hsk ⟨e, he, hs⟩, List.getElem?_append_left]
      · exact hmap
      · rw [List.length_map]; exact (List.getElem?_eq_some_iff.mp h).1
  · rw [patterns_of_noSkip hno]
    constructor
    · rw [List.length_append, List.length_map]; rfl
    · rw [List.getElem?_append_right (Nat.le_of_eq (List.length_map _)), List.length_map,
        Nat.sub_self]
      rfl
  · rw [patterns_of_skip hsk, List.length_map]

/-- the hypotheses are satisfiable: a two-rung block, a literal from the grammar via `_` -/
example : ∃ es, matchEntries (some [[.unmapped (.regex [97])], [.unmapped (.quoted [98]), .catchAll]])
    [.lit (.quoted [99])] = .ok es ∧ es.length = 3 := ⟨_, rfl, rfl⟩

end LalrpopModel.TokCheck
