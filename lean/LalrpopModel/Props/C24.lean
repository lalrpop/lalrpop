import LalrpopModel.Lemmas.RwFmt
import LalrpopModel.Gen.GuardedSites
/-!
C24 — formatting options do not change the generated program.

`Model/Rw.lean` is the model of `RustWrite`, `Model/RustLex.lean` the Rust lexer; the theorems say
that what `emit_comments` / `emit_whitespace` change (indentation, comment lines, the layout of table
rows) never reaches the token stream.  `Gen/GuardedSites.lean` is regenerated from the source on every
run.
-/
namespace LalrpopModel.Rw
open LalrpopModel.RustLex

/-- a comment line (blanks, `//`, a non-doc body without newline) followed by its newline lexes to
    nothing, whatever follows -/
theorem line_comment_lexes_empty (s rest : List Char) (h : isCommentLine s) :
    lexRust (s ++ '\n' :: rest) = lexRust rest := by
  have := (neutral_commentLine s h).lex rest
  simpa using this

/-- indentation lexes to nothing -/
theorem indentation_lexes_empty (f : Flags) (n : Nat) (rest : List Char) :
    lexRust (indentation f n ++ rest) = lexRust rest := by
  simpa using (neutral_indentation f n).lex rest

/-- the three layouts of `write_table_row` (one commented entry per line; one line with blanks; one
    line without) give the same tokens, at any indentation -/
theorem row_layouts_lex_equal (f f' : Flags) (indent indent' : Nat) (es : List (Int × List Char))
    (h : rowCommentsOK es) (rest : List Char) :
    lexRust (writeTableRow f indent es ++ rest) = lexRust (writeTableRow f' indent' es ++ rest) := by
  rw [(neutral_tableRow f indent es h).lex rest, (neutral_tableRow f' indent' es h).lex rest]

/-- **The token stream of the generated file is a function of the emission events alone.**  For every
    flag setting under which `RustWrite` does not panic, if every `rust!` line is lexically closed, every
    line emitted only under `emit_comments` is a comment line and every table-row comment is a comment,
    then lexing the output gives `specToks evs`, in which the flags do not occur. -/
theorem render_lex_spec (f : Flags) (indent : Nat) (evs : List Ev) (out : List Char)
    (hok : ∀ e ∈ evs, evOK e) (h : render f indent evs = some out) : lexRust out = specToks evs :=
  (neutral_render f evs indent out hok h).lex_all

/-- Any two flag settings give the same token stream. -/
theorem render_flags_lex_equal (f f' : Flags) (indent indent' : Nat) (evs : List Ev) (out out' : List Char)
    (hok : ∀ e ∈ evs, evOK e) (h : render f indent evs = some out) (h' : render f' indent' evs = some out') :
    lexRust out = lexRust out' := by
  rw [render_lex_spec f indent evs out hok h, render_lex_spec f' indent' evs out' hok h']

/-! ### multi-line buffers

A `line s` event is ONE `rust!` call; `s` may contain newlines (user action code is written by a single
call, and may contain string / raw string / byte string literals and block comments that span several
source lines).  What the theorems above assume about such a buffer is only `Closed s`: lexing
`s ++ "\n"` from between tokens ends between tokens — literals and block comments may span lines
INSIDE the buffer, they just may not be left open at its end.  That this is enough rests on the fact
proved next: `write_fmt` writes the indentation once, in front of the whole buffer, and then the
buffer verbatim, so no newline inside the buffer is ever followed by inserted blanks. -/

/-- For a non-empty buffer, `write_fmt` outputs exactly `indentation ++ s ++ "\n"` — one indentation
    (a run of blanks, empty when `emit_whitespace` is off) in front, then the buffer unchanged,
    whatever newlines it contains. -/
theorem multi_line_buffer_verbatim (f : Flags) (indent : Nat) (s out : List Char) (indent' : Nat)
    (hs : s ≠ []) (h : writeFmt f indent s = some (out, indent')) :
    ∃ k, out = List.replicate k ' ' ++ s ++ ['\n'] ∧ (f.whitespace = false → k = 0) := by
  obtain ⟨n, rfl⟩ := writeFmt_out h
  cases hw : f.whitespace with
  | true => exact ⟨n, by simp [indentation, hw], nofun⟩
  | false => exact ⟨0, by simp [indentation, hw], fun _ => rfl⟩

/-- consequently the two white-space settings differ on a buffer only by that leading run of blanks:
    the text from the first character of the buffer on is identical, in particular inside every
    literal that spans lines -/
theorem multi_line_buffer_flag_independent (c : Bool) (indent : Nat) (s o₁ o₂ : List Char) (i₁ i₂ : Nat)
    (hs : s ≠ []) (h₁ : writeFmt ⟨c, true⟩ indent s = some (o₁, i₁)) (h₂ : writeFmt ⟨c, false⟩ indent s = some (o₂, i₂)) :
    ∃ k, o₁ = List.replicate k ' ' ++ o₂ := by
  obtain ⟨k, hk, _⟩ := multi_line_buffer_verbatim _ indent s o₁ i₁ hs h₁
  obtain ⟨k', hk', hz⟩ := multi_line_buffer_verbatim _ indent s o₂ i₂ hs h₂
  have : k' = 0 := hz rfl
  subst this
  exact ⟨k, by rw [hk, hk']; simp⟩

/-- a buffer whose string literal spans three lines is `Closed`, and both white-space settings lex to
    the same single string token with the original line breaks -/
example :
    Closed ['"', 'a', '\n', ' ', ' ', 'b', '\n', 'c', '"', ';'] ∧
    (render ⟨false, true⟩ 4 [.line ['"', 'a', '\n', ' ', ' ', 'b', '\n', 'c', '"', ';']]).map lexRust =
      some [.str ['a', '\n', ' ', ' ', 'b', '\n', 'c'], .punct ';'] ∧
    (render ⟨false, false⟩ 4 [.line ['"', 'a', '\n', ' ', ' ', 'b', '\n', 'c', '"', ';']]).map lexRust =
      some [.str ['a', '\n', ' ', ' ', 'b', '\n', 'c'], .punct ';'] := by
  refine ⟨?_, ?_, ?_⟩
  · show runMode .normal _ = .normal; decide +kernel
  · decide +kernel
  · decide +kernel

/-- the hypotheses are satisfiable and the statement has content: a function with a guarded comment
    and a table row, rendered with comments on / white space off and with the defaults -/
example :
    let evs : List Ev :=
      [.line ['f', 'n', ' ', 'f', '(', ')', ' ', '{'], .cline ['/', '/', ' ', 'S', 't', 'a', 't', 'e', ' ', '0'],
       .row [(3, [' ', '/', '/', ' ', 'o', 'n', ' ', '"', 'a', '"']), (-1, [' ', '/', '/', ' ', 'e'])],
       .line ['}']]
    render ⟨true, false⟩ 0 evs ≠ none ∧ render Flags.default 0 evs ≠ none ∧
    render ⟨true, false⟩ 0 evs ≠ render Flags.default 0 evs ∧
    (render ⟨true, false⟩ 0 evs).map lexRust = (render Flags.default 0 evs).map lexRust := by
  decide +kernel

/-! ### the side condition, from the source -/

/-- **every emission under an `emit_comments` test is a comment**: its format string (for `{}` of a
    `Comment`, the format strings of its `Display`) has no escapes and parses to blanks, `//`, and a
    body that does not start with `/` or `!`, with no literal newline.  Closed by `decide` over the
    table regenerated from `lr1/codegen/*.rs` on every run. -/
theorem guarded_sites_are_comments : ∀ s ∈ Gen.guardedSites, isCommentFormat s.fmt = true := by decide +kernel

/-- the comments written next to table-row entries (`impl Display for Comment`) are comments -/
theorem comment_display_formats_are_comments : ∀ f ∈ Gen.commentDisplayFormats, isCommentFormat f = true := by
  decide +kernel

/-- the constants the model of `rust/mod.rs` uses are the ones in the source: `TAB`, the closers that
    dedent, the openers that indent, the indentation format, the two row formats -/
theorem rw_source_facts_match_model :
    Gen.tab = TAB ∧ (∀ c, isCloser c = Gen.closers.contains c) ∧ (∀ c, isOpener c = Gen.openers.contains c) ∧
    Gen.indentFmt = ['{', '0', ':', '1', '$', '}'] ∧
    Gen.rowThenFormats = [['{', 'i', '}', ',', ' ', '{', 'c', 'o', 'm', 'm', 'e', 'n', 't', '}']] ∧
    Gen.rowElseFormats = [[' '], ['{', 'i', '}', ',']] := by
  refine ⟨rfl, ?_, ?_, rfl, rfl, rfl⟩
  · intro c
    simp only [isCloser, Gen.closers, List.contains_cons, List.contains_nil, Bool.or_false, Bool.or_assoc]
  · intro c
    simp only [isOpener, Gen.openers, List.contains_cons, List.contains_nil, Bool.or_false, Bool.or_assoc]

end LalrpopModel.Rw
