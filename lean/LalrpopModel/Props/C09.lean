import LalrpopModel.Lemmas.Lex
/-!
C09 — the built-in lexer tokenizes by longest match with documented precedence (runtime part).

Property theorems about `Lex.next` / `Lex.tokens` (the model of `Matcher::next`, tied to
`lalrpop-util/src/lexer.rs` by the `lexer` correspondence run), for **every** oracle with a sound
`dead` (i.e. every pattern set), every skip vector and every input over any alphabet.
-/
namespace LalrpopModel.Lex
variable {α : Type}

/-- `is_dead()` is only an early exit: with any sound `dead` the search finds the same longest
match as with no early exit at all (which is how `lpm_lex` runs the model). -/
theorem scan_dead_irrelevant (o : Oracle α) (hd : DeadSound o) (text : List α) :
    scan o text 0 none = scan { o with dead := fun _ => false } text 0 none := by
  have hd' : DeadSound { o with dead := fun _ => false } := fun _ _ _ h => nomatch h
  rcases noMatch_or_longest o hd text with h | ⟨L, h⟩
  · rw [scan_eq_none o hd text h, scan_eq_none _ hd' text h]
  · rw [scan_eq_some o hd text L h, scan_eq_some _ hd' text L h]


/-- a token returned by `next` is the one of the longest match at the position reached after `k`
bytes of skipped matches -/
theorem next_tok_inv (o : Oracle α) (hd : DeadSound o) (skip : List Bool) (st : St α)
    {s i e : Nat} {t : List α} {st' : St α} (h : next o skip st = (.tok s i t e, st')) :
    ∃ k L, k ≤ st.text.length ∧ IsLongest o (st.advance k).text L ∧ 0 < L ∧
      skip[winner o (st.advance k).text L]? = some false ∧
      (Item.tok s i t e, st') = (.tok (st.advance k).consumed (winner o (st.advance k).text L)
        ((st.advance k).text.take L) ((st.advance k).consumed + L), (st.advance k).advance L) := by
  fun_induction next o skip st with
  | case1 => cases h
  | case2 => cases h
  | case3 => cases h
  | case4 => cases h
  | case5 st hne len hscan index st1 hlen hskip ih =>
    obtain ⟨k, L, hk, hrest⟩ := ih h
    have hlen := ((scan_spec o hd st.text).2 len hscan).1
    rw [show st1.text.length = st.text.length - len from List.length_drop] at hk
    rw [show st1.advance k = st.advance (len + k) from St.advance_advance st len k] at hrest
    exact ⟨len + k, L, Nat.add_le_of_le_sub' hlen hk, hrest⟩
  | case6 st hne len hscan index st1 hlen hskip =>
    exact ⟨0, len, Nat.zero_le _, (scan_spec o hd st.text).2 len hscan, Nat.pos_of_ne_zero hlen,
      hskip, h.symm⟩

/-- **longest match, then highest index.**  A returned token starts after `k` skipped bytes; at
that position `e - s` is the greatest length matched by any pattern, the token text is exactly
that prefix, its index is the greatest pattern index matching it, that pattern is not a skip
pattern, the token is non-empty, and the matcher resumes right after it. -/
theorem longest_then_highest (o : Oracle α) (hd : DeadSound o) (skip : List Bool) (st : St α)
    {s i e : Nat} {t : List α} {st' : St α} (h : next o skip st = (.tok s i t e, st')) :
    ∃ k, s = st.consumed + k ∧ k ≤ st.text.length ∧
      IsLongest o (st.text.drop k) (e - s) ∧ s < e ∧
      t = (st.text.drop k).take (e - s) ∧
      i = maxIdx (o.matchSet t) ∧ skip[i]? = some false ∧
      st' = ⟨(st.text.drop k).drop (e - s), e⟩ := by
  obtain ⟨k, L, hk, hl, hpos, hsk, heq⟩ := next_tok_inv o hd skip st h
  cases heq
  rw [Nat.add_sub_cancel_left]
  exact ⟨k, rfl, hk, hl, Nat.lt_add_of_pos_right hpos, rfl, rfl, hsk, rfl⟩

/-- **skipped text yields nothing.**  If the longest match at the current position is non-empty
and its winning pattern is a skip pattern, the call behaves exactly as if it had been started
after the match: no item is produced for the skipped text. -/
theorem skip_yields_nothing (o : Oracle α) (hd : DeadSound o) (skip : List Bool) (st : St α)
    (L : Nat) (hne : st.text ≠ []) (hl : IsLongest o st.text L) (hpos : 0 < L)
    (hsk : skip[maxIdx (o.matchSet (st.text.take L))]? = some true) :
    next o skip st = next o skip (st.advance L) := by
  rw [next_of_longest o hd skip st hne hl, if_neg (Nat.ne_of_gt hpos), winner, hsk]

/-- **InvalidToken at the first position where nothing (non-empty) matches**, direct case. -/
theorem invalid_when_nothing_matches (o : Oracle α) (hd : DeadSound o) (skip : List Bool)
    (st : St α) (hne : st.text ≠ []) (h : NoMatch o st.text ∨ IsLongest o st.text 0) :
    (next o skip st).1 = .invalid st.consumed := by
  rcases h with h | h
  · rw [next_of_noMatch o hd skip st hne h]
  · rw [next_of_longest o hd skip st hne h, if_pos rfl]

/-- …and conversely: an `InvalidToken` is reported only there.  Its location is the offset
reached after `k` bytes of skipped matches, the input is not exhausted, and at that offset no
prefix matches, or only the empty prefix does. -/
theorem invalid_at_first_dead (o : Oracle α) (hd : DeadSound o) (skip : List Bool) (st : St α)
    {loc : Nat} {st' : St α} (h : next o skip st = (.invalid loc, st')) :
    ∃ k, loc = st.consumed + k ∧ k < st.text.length ∧
      (NoMatch o (st.text.drop k) ∨ IsLongest o (st.text.drop k) 0) := by
  fun_induction next o skip st with
  | case1 => cases h
  | case2 st hne hscan =>
    exact ⟨0, (Item.invalid.inj (Prod.mk.inj h).1).symm,
      List.length_pos_iff.mpr (mt List.isEmpty_iff.mpr hne), .inl ((scan_spec o hd st.text).1 hscan)⟩
  | case3 st hne hscan st1 =>
    exact ⟨0, (Item.invalid.inj (Prod.mk.inj h).1).symm,
      List.length_pos_iff.mpr (mt List.isEmpty_iff.mpr hne), .inr ((scan_spec o hd st.text).2 0 hscan)⟩
  | case4 => cases h
  | case5 st hne len hscan index st1 hlen hskip ih =>
    obtain ⟨k, rfl, hk, hm⟩ := ih h
    rw [show st1.text.length = st.text.length - len from List.length_drop] at hk
    refine ⟨len + k, Nat.add_assoc _ _ _, Nat.add_lt_of_lt_sub' hk, ?_⟩
    rw [← List.drop_drop]
    exact hm
  | case6 => cases h


/-- **stream_spec (completeness).** a stream meeting the specification is the modelled one -/
theorem stream_spec_unique (o : Oracle α) (hd : DeadSound o) (skip : List Bool) (st : St α)
    (items : List (Item α)) (h : Lexes o skip st items) : items = tokens o skip st := by
  induction h with
  | done st h => rw [tokens.eq_1, next_nil o skip st h]
  | bad st h hb =>
    rcases hb with hb | hb
    · rw [tokens.eq_1, next_of_noMatch o hd skip st h hb]
    · rw [tokens.eq_1, next_of_longest o hd skip st h hb, if_pos rfl]
  | oob st L h hl hpos hsk =>
    rw [tokens.eq_1, next_of_longest o hd skip st h hl, if_neg (Nat.ne_of_gt hpos), hsk]
  | tok st L items h hl hpos hsk _ ih =>
    rw [tokens.eq_1, next_of_longest o hd skip st h hl, if_neg (Nat.ne_of_gt hpos), hsk, ih]
  | skip st L items h hl hpos hsk _ ih =>
    -- `tokens` looks at the state only through `next`
    rw [ih, tokens.eq_1 o skip st, skip_yields_nothing o hd skip st L h hl hpos hsk, ← tokens.eq_1]

/-- **stream_spec (soundness).** the modelled token stream is the specified one -/
theorem stream_spec (o : Oracle α) (hd : DeadSound o) (skip : List Bool) (st : St α) :
    Lexes o skip st (tokens o skip st) := by
  obtain ⟨items, h⟩ := Lexes.exists o hd skip st
  rwa [← stream_spec_unique o hd skip st items h]

/-- **spans_are_offsets.**  Lexing `input` from offset 0: token spans are byte offsets into
`input`, in order, non-overlapping, non-empty, and each token's text is the slice its span
denotes. -/
theorem spans_are_offsets (o : Oracle α) (hd : DeadSound o) (skip : List Bool) (input : List α) :
    SpansOk input 0 (tokens o skip (init input)) :=
  (stream_spec o hd skip (init input)).spans input (by simp [init])

/-- the hypotheses are satisfiable: an oracle with a sound `dead` (pattern 0 = `a+`, pattern 1 =
`ab`, over a = 0, b = 1), and the specified stream on `"aab"` -/
example : DeadSound ({ matchSet := fun p => if p = [0, 1] then [1] else if p ≠ [] ∧ p.all (· == 0) then [0] else [],
                       dead := fun _ => false } : Oracle Nat) := by
  intro text i _ h; cases h

end LalrpopModel.Lex
