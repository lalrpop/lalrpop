import LalrpopModel.Model.Err
/-!
C28 — ParseError helpers transform and display errors as documented.

The documented behaviour is written as specifications (`mapLocationSpec`, `sameShape`,
`expectedSpec`, …) next to the theorems that compare the model with them.  Every theorem quantifies
over arbitrary location/token/error types, arbitrary functions and expected lists of any length.
-/

namespace LalrpopModel.Err

variable {L T E LL TT EE LLL σ : Type}

/-! ### `map_location` applies the function to every location, both ends of token spans,
   start before end; tokens, user errors and `expected` are left alone. -/

/-- Declarative spec of `map_location` for a pure function. -/
def mapLocationSpec (f : L → LL) : ParseError L T E → ParseError LL T E
  | .invalidToken l => .invalidToken (f l)
  | .unrecognizedEof l ex => .unrecognizedEof (f l) ex
  | .unrecognizedToken s t e ex => .unrecognizedToken (f s) t (f e) ex
  | .extraToken s t e => .extraToken (f s) t (f e)
  | .user err => .user err

theorem map_location_spec (f : L → LL) (e : ParseError L T E) :
    mapLocation f e = mapLocationSpec f e := by
  cases e <;> rfl

/-- the locations of an error, in the order a stateful (`FnMut`) closure must see them -/
def locations : ParseError L T E → List L
  | .invalidToken l => [l]
  | .unrecognizedEof l _ => [l]
  | .unrecognizedToken s _ e _ => [s, e]
  | .extraToken s _ e => [s, e]
  | .user _ => []

/-- run a stateful function over a list, left to right -/
def mapM' (op : σ → L → LL × σ) : σ → List L → List LL × σ
  | st, [] => ([], st)
  | st, l :: ls =>
    let (l', st1) := op st l
    let (ls', st2) := mapM' op st1 ls
    (l' :: ls', st2)

/-- `map_location` with an `FnMut` closure calls it exactly once per location, in the order
    `locations` lists them (start of a span before its end), and the final closure state is the
    one after those calls. -/
theorem map_location_fnmut_order (op : σ → L → LL × σ) (st : σ) (e : ParseError L T E) :
    locations (mapLocationM op st e).1 = (mapM' op st (locations e)).1 ∧
    (mapLocationM op st e).2 = (mapM' op st (locations e)).2 := by
  cases e <;> exact ⟨rfl, rfl⟩

/-- same variant, same token, user error and `expected` list: only locations may differ -/
def sameShape : ParseError L T E → ParseError LL T E → Prop
  | .invalidToken _, .invalidToken _ => True
  | .unrecognizedEof _ ex, .unrecognizedEof _ ex' => ex = ex'
  | .unrecognizedToken _ t _ ex, .unrecognizedToken _ t' _ ex' => t = t' ∧ ex = ex'
  | .extraToken _ t _, .extraToken _ t' _ => t = t'
  | .user err, .user err' => err = err'
  | _, _ => False

/-- …and nothing but locations changes (stateful version) -/
theorem map_location_fnmut_shape (op : σ → L → LL × σ) (st : σ) (e : ParseError L T E) :
    sameShape e (mapLocationM op st e).1 := by
  cases e <;> simp [mapLocationM, mapIntern, mapTok, sameShape]

theorem map_location_id (e : ParseError L T E) : mapLocation id e = e := by
  cases e <;> rfl

theorem map_location_comp (f : L → LL) (g : LL → LLL) (e : ParseError L T E) :
    mapLocation g (mapLocation f e) = mapLocation (g ∘ f) e := by
  cases e <;> rfl

/-! ### `map_token`, `map_error` change only their own field -/

def mapTokenSpec (f : T → TT) : ParseError L T E → ParseError L TT E
  | .invalidToken l => .invalidToken l
  | .unrecognizedEof l ex => .unrecognizedEof l ex
  | .unrecognizedToken s t e ex => .unrecognizedToken s (f t) e ex
  | .extraToken s t e => .extraToken s (f t) e
  | .user err => .user err

theorem map_token_spec (f : T → TT) (e : ParseError L T E) : mapToken f e = mapTokenSpec f e := by
  cases e <;> rfl

def mapErrorSpec (f : E → EE) : ParseError L T E → ParseError L T EE
  | .invalidToken l => .invalidToken l
  | .unrecognizedEof l ex => .unrecognizedEof l ex
  | .unrecognizedToken s t e ex => .unrecognizedToken s t e ex
  | .extraToken s t e => .extraToken s t e
  | .user err => .user (f err)

theorem map_error_spec (f : E → EE) (e : ParseError L T E) : mapError f e = mapErrorSpec f e := by
  cases e <;> rfl

theorem map_token_id (e : ParseError L T E) : mapToken id e = e := by cases e <;> rfl
theorem map_error_id (e : ParseError L T E) : mapError id e = e := by cases e <;> rfl

/-- the three maps commute with each other (each touches only its own field) -/
theorem map_token_location_comm (f : L → LL) (g : T → TT) (e : ParseError L T E) :
    mapToken g (mapLocation f e) = mapLocation f (mapToken g e) := by
  cases e <;> rfl

theorem map_error_location_comm (f : L → LL) (g : E → EE) (e : ParseError L T E) :
    mapError g (mapLocation f e) = mapLocation f (mapError g e) := by
  cases e <;> rfl

/-! ### `From<E>` builds `User` -/

theorem from_spec (err : E) : (fromError err : ParseError L T E) = .user err := rfl

/-! ### Display: "Expected one of a, b or c" -/

/-- documented form of the items after the first: `, b` for inner items, ` or c` for the last -/
def tailSpec : List String → List String
  | [] => []
  | [z] => [" or", " ", z]
  | y :: z :: zs => "," :: " " :: y :: tailSpec (z :: zs)

/-- documented form of the whole list: nothing for an empty list, otherwise a newline,
    `Expected one of a`, then the tail -/
def expectedSpec : List String → List String
  | [] => []
  | a :: rest => "\n" :: "Expected one of" :: " " :: a :: tailSpec rest

theorem sepFor_last (i : Nat) (hi : 0 < i) : sepFor i (i + 1) = " or" := by
  rw [sepFor, if_neg (Nat.ne_of_gt hi), if_neg (by omega)]

theorem sepFor_inner (i n : Nat) (hi : 0 < i) (h : i + 1 < n) : sepFor i n = "," := by
  rw [sepFor, if_neg (Nat.ne_of_gt hi), if_pos (by omega)]

theorem fmtExpectedLoop_tail (n i : Nat) (xs : List String) (hi : 0 < i) (hn : n = i + xs.length) :
    fmtExpectedLoop n i xs = tailSpec xs := by
  induction xs generalizing i with
  | nil => rfl
  | cons y ys ih =>
    cases ys with
    | nil => subst hn; exact congrArg (· :: _) (sepFor_last i hi)
    | cons z zs =>
      rw [fmtExpectedLoop, ih (i + 1) (Nat.succ_pos i) (by rw [hn, List.length_cons]; omega),
        sepFor_inner i n hi (by rw [hn, List.length_cons, List.length_cons]; omega)]
      rfl

theorem fmt_expected_spec (xs : List String) : fmtExpected xs = expectedSpec xs := by
  cases xs with
  | nil => rfl
  | cons a rest =>
    have := fmtExpectedLoop_tail (rest.length + 1) 1 rest (by omega) (by omega)
    simp [fmtExpected, fmtExpectedLoop, expectedSpec, sepFor, this]

/-- `Display` of each variant, with the expected list in its documented form -/
theorem display_spec (showL : L → String) (showT : T → String) (showE : E → String)
    (e : ParseError L T E) :
    display showL showT showE e =
      match e with
      | .user err => [showE err]
      | .invalidToken l => ["Invalid token at ", showL l]
      | .unrecognizedEof l ex => ["Unrecognized EOF found at ", showL l] ++ expectedSpec ex
      | .unrecognizedToken s t e ex =>
          ["Unrecognized token `", showT t, "` found at ", showL s, ":", showL e] ++ expectedSpec ex
      | .extraToken s t e => ["Extra token ", showT t, " found at ", showL s, ":", showL e] := by
  cases e <;> simp only [display, fmt_expected_spec]

/-- concrete instances (tests of the spec's reading, not part of the proof) -/
example : expectedSpec ["a", "b", "c"] =
    ["\n", "Expected one of", " ", "a", ",", " ", "b", " or", " ", "c"] := rfl
example : expectedSpec ["a"] = ["\n", "Expected one of", " ", "a"] := rfl
example : expectedSpec ["a", "b"] = ["\n", "Expected one of", " ", "a", " or", " ", "b"] := rfl

end LalrpopModel.Err
