import LalrpopModel.Lemmas.LRTermSim
import LalrpopModel.Lemmas.LRGenericBasic
/-!
C08 termination: the driver follows the reduce loop `locStep` of `Lemmas/LRTermSim.lean`.
`accepts` runs exactly that loop, one unit of fuel per iteration, and its fuel stop can only come
out of the recursive call; the phases `.act`, `.eof` and `.recReduce` run it under their lookahead,
one `step` per iteration, until an action that is no reduction.
-/
namespace LalrpopModel.LR.Term
open LalrpopModel.LR LalrpopModel.LR.Generic

variable {T : Tables} {la : LA}

theorem redInfo_eq_some {top n A p : Nat} {a : Int} (ha : actionFor T top la = some a)
    (hp : asReduce a = some p) (h1 : T.prodLen[p]? = some n) (h2 : T.prodLhs[p]? = some A)
    (h3 : T.isStart[p]? = some false) : redInfo T la top = some (n, A) := by
  simp [redInfo, ha, hp, h1, h2, h3]

theorem asReduce_ne_zero {a : Int} {p : Nat} (h : asReduce a = some p) : a ≠ 0 :=
  Int.ne_of_lt (asReduce_some h).1

theorem eq_zero_of_asReduce_none {a : Int} (hle : a ≤ 0) (h : asReduce a = none) : a = 0 :=
  Int.le_antisymm hle (Int.not_lt.mp fun hlt => by rw [asReduce, if_pos hlt] at h; cases h)

theorem le_zero_of_asShift_none {a : Int} (h : asShift a = none) : a ≤ 0 :=
  Int.not_lt.mp fun hpos => by rw [asShift_pos hpos] at h; cases h

theorem accepts_fuel_inv {af : Nat} {st : List Nat}
    (h : accepts T (af + 1) st la = .error .outOfFuel) :
    ∃ st', locStep T la st = .step st' ∧ accepts T af st' la = .error .outOfFuel := by
  cases st with
  | nil => simp [accepts] at h
  | cons top tl =>
    rw [accepts_succ] at h
    split at h
    · cases h
    · rename_i a ha
      split at h
      · cases h
      · split at h
        · rename_i p hp
          split at h
          · rename_i n A st h1 h2 h3
            split at h
            · cases h
            · rename_i hst
              rw [eq_false_of_ne_true hst] at h3
              split at h
              · cases h
              · split at h
                · cases h
                · rename_i below rest hd
                  exact ⟨_, by rw [locStep_of (redInfo_eq_some ha hp h1 h2 h3), hd], h⟩
          · cases h
        · cases h

theorem accepts_step_eq {st st' : List Nat} (h : locStep T la st = .step st') (af : Nat) :
    accepts T (af + 1) st la = accepts T af st' la := by
  obtain ⟨top, tl, n, A, below, more, rfl, hr, hd, rfl⟩ := locStep_step_inv h
  obtain ⟨a, p, ha, hp, h1, h2, h3⟩ := redInfo_inv hr
  exact accepts_reduce T af ha hp h1 h2 h3 hd

theorem accepts_iter_eq {N : Nat} {st fin : List Nat} (hit : Iter T la N st fin) :
    ∀ af, accepts T (af + N) st la = accepts T af fin la := by
  induction hit with
  | refl st => intro af; rfl
  | step hs _ ih =>
    intro af
    rw [← Nat.add_assoc, accepts_step_eq hs]
    exact ih af

theorem accepts_of_iter {N : Nat} {st fin : List Nat} (hit : Iter T la N st fin) (hh : Halts T la fin)
    {af : Nat} (haf : N < af) : accepts T af st la ≠ .error .outOfFuel := by
  obtain ⟨k, rfl⟩ : ∃ k, af = k + 1 + N := ⟨af - N - 1, by omega⟩
  rw [accepts_iter_eq hit]
  intro h
  obtain ⟨st', hs, _⟩ := accepts_fuel_inv h
  exact hh st' hs

/-- the `accepts` fuel that suffices on stacks of height `h` (under V7 with fuel `F`) -/
def accFuel (F h : Nat) : Nat := (F + 1) * (h + F) + F + 1

theorem accFuel_mono {F h h' : Nat} (hle : h ≤ h') : accFuel F h ≤ accFuel F h' := by
  unfold accFuel
  have := Nat.mul_le_mul_left (F + 1) (Nat.add_le_add_right hle F)
  omega

variable {F : Nat}

theorem accepts_terminates (hT : TermOK T F) (hla : LAok T la) {st : List Nat} (hadj : Adj T st)
    {af : Nat} (haf : accFuel F st.length ≤ af) : accepts T af st la ≠ .error .outOfFuel := by
  obtain ⟨N, fin, d, hit, hh, hN, hd⟩ := phase_term hT hla st.length st (Nat.le_refl _) hadj
  apply accepts_of_iter hit hh
  have : F * (d + 1) ≤ (F + 1) * (st.length + F) := Nat.mul_le_mul (Nat.le_succ F) (by omega)
  unfold accFuel at haf
  omega

theorem expected_ne_fuel (hT : TermOK T F) {states : List Nat} (hadj : Adj T states)
    {af : Nat} (haf : accFuel F states.length ≤ af) : expected T af states ≠ .error .outOfFuel := by
  intro he
  obtain ⟨j, hj, hacc⟩ := expected_error T he
  exact accepts_terminates hT (la := some j) hj hadj haf hacc

variable {af : Nat}

/-- what `tokens.next()` yields: the end of the stream, a token with its index, or the end of the run -/
theorem nextToken_cases (hT : TermOK T F) (af : Nat) (c : Cfg) (hadj : Adj T c.states) :
    (c.input = [] ∧ nextToken T af c = ({ c with pulled := c.pulled + 1 }, .eof)) ∨
    (∃ t i rest, c.input = .tok t :: rest ∧ t.kind = some i ∧ nextToken T af c =
      ({ c with input := rest, pulled := c.pulled + 1, lastLoc := t.r }, .found t i)) ∨
    (∃ c' r, nextToken T af c = (c', .done r) ∧
      (accFuel F c.states.length ≤ af → r ≠ .panic .outOfFuel)) := by
  have h := nextToken_spec T af c
  generalize nextToken T af c = x at h ⊢
  obtain ⟨c', nt⟩ := x
  cases h with
  | eof hi => exact .inl ⟨hi, rfl⟩
  | found t i rest hi hk => exact .inr (.inl ⟨t, i, rest, hi, hk, rfl⟩)
  | err e rest hi => exact .inr (.inr ⟨_, _, rfl, fun _ => nofun⟩)
  | unrec t rest hi hk ex hex => exact .inr (.inr ⟨_, _, rfl, fun _ => nofun⟩)
  | panic t rest hi hk tag hex =>
    exact .inr (.inr ⟨_, _, rfl, fun haf h => expected_ne_fuel hT hadj haf (Outcome.panic.inj h ▸ hex)⟩)

theorem enterRecovery_cases (hT : TermOK T F) (af : Nat) (c : Cfg) (hadj : Adj T c.states)
    (la : Option (Tok × Term)) (fe : Bool) :
    (∃ r, enterRecovery T af c la fe = (c, .done r) ∧
      (accFuel F c.states.length ≤ af → r ≠ .panic .outOfFuel)) ∨
    (T.usesRecovery = true ∧ ∃ pe, enterRecovery T af c la fe = (c, .recReduce la pe fe)) := by
  unfold enterRecovery
  rw [unrecognizedError_eq]
  cases he : expected T af c.states with
  | error e =>
    exact .inl ⟨.panic e, rfl, fun haf h => expected_ne_fuel hT hadj haf (Outcome.panic.inj h ▸ he)⟩
  | ok ex =>
    cases hrec : T.usesRecovery with
    | false => exact .inl ⟨.err _, rfl, fun _ => nofun⟩
    | true => exact .inr ⟨rfl, _, rfl⟩

variable {failAt : Option Nat} {startLoc : Int}

theorem reduce_finished_ne_fuel {c c' : Cfg} {p : Nat} {ls : Option Int} {r : Outcome}
    (h : reduce T failAt startLoc c p ls = .finished c' r) : r ≠ .panic .outOfFuel :=
  ReduceSpec.fin_ne_fuel (h ▸ reduce_spec T failAt startLoc c p ls)

/-- the lookahead of the reduce loop of `error_recovery`: the error terminal -/
def errLA (T : Tables) : LA := some (T.nTerm - 1)

theorem errLA_ok (hT : TermOK T F) (hrec : T.usesRecovery = true) : LAok T (errLA T) := by
  have := hT.err_term hrec
  show T.nTerm - 1 < T.nTerm
  omega

/-- `ph` runs the reduce loop under lookahead `la`: the `'inner` loop of `parse`, the loop of
    `parse_eof`, the first loop of `error_recovery` -/
inductive LoopPh (T : Tables) : Phase → LA → Prop
  | act (tok : Tok) (idx : Term) : LoopPh T (.act tok idx) (some idx)
  | eof : LoopPh T .eof none
  | recReduce (la : Option (Tok × Term)) (e : PErr) (fe : Bool) :
      LoopPh T (.recReduce la e fe) (errLA T)

variable {ph : Phase}

theorem LoopPh.step_nil (h : LoopPh T ph la) {c : Cfg} (hs : c.states = []) :
    step T af failAt startLoc c ph = (c, .done (.panic .emptyStates)) := by
  cases h <;> simp only [step, hs]

theorem LoopPh.step_noAction (h : LoopPh T ph la) {c : Cfg} {top : Nat} {rest : List Nat}
    (hs : c.states = top :: rest) (ha : actionFor T top la = none) :
    step T af failAt startLoc c ph = (c, .done (.panic .actionIndex)) := by
  cases h with
  | act tok idx => simp only [step, hs, show T.actionAt top idx = none from ha]
  | eof => simp only [step, hs, show T.eofActionAt top = none from ha]
  | recReduce la e fe => simp only [step, hs, show T.errorActionAt top = none from ha]

theorem LoopPh.step_reduce (h : LoopPh T ph la) (af : Nat) (failAt : Option Nat) (startLoc : Int)
    {c : Cfg} {top : Nat} {rest : List Nat} {a : Int} {p : Nat} (hs : c.states = top :: rest) (ha : actionFor T top la = some a)
    (hp : asReduce a = some p) :
    (∃ c' r, step T af failAt startLoc c ph = (c', .done r) ∧ r ≠ .panic .outOfFuel) ∨
    (∃ c' ls, ReduceSpec T failAt startLoc c p ls (.continue_ c') ∧
      step T af failAt startLoc c ph = (c', ph)) := by
  cases h with
  | act tok idx =>
    simp only [step, hs, show T.actionAt top idx = some a from ha, asShift_of_asReduce hp, hp]
    cases hr : reduce T failAt startLoc c p (some tok.l) with
    | continue_ c' => exact .inr ⟨c', _, hr ▸ reduce_spec T failAt startLoc c p _, rfl⟩
    | finished c' r =>
      have hne := reduce_finished_ne_fuel hr
      cases r with
      | ok v => exact .inl ⟨c', _, rfl, by simp⟩
      | err e => exact .inl ⟨c', _, rfl, by simp⟩
      | panic tag => exact .inl ⟨c', _, rfl, hne⟩
  | eof =>
    simp only [step, hs, show T.eofActionAt top = some a from ha, hp]
    cases hr : reduce T failAt startLoc c p none with
    | continue_ c' => exact .inr ⟨c', _, hr ▸ reduce_spec T failAt startLoc c p _, rfl⟩
    | finished c' r => exact .inl ⟨c', r, rfl, reduce_finished_ne_fuel hr⟩
  | recReduce la e fe =>
    simp only [step, hs, show T.errorActionAt top = some a from ha, hp]
    cases hr : reduce T failAt startLoc c p (la.map (·.1.l)) with
    | continue_ c' => exact .inr ⟨c', _, hr ▸ reduce_spec T failAt startLoc c p _, rfl⟩
    | finished c' r => exact .inl ⟨c', r, rfl, reduce_finished_ne_fuel hr⟩

theorem loop_step (hph : LoopPh T ph la) (af : Nat) (failAt : Option Nat) (startLoc : Int) (c : Cfg) :
    (∃ c' r, step T af failAt startLoc c ph = (c', .done r) ∧ r ≠ .panic .outOfFuel) ∨
    (∃ c', step T af failAt startLoc c ph = (c', ph) ∧
      locStep T la c.states = .step c'.states ∧ c'.input = c.input) ∨
    (Halts T la c.states ∧ ∃ top rest a, c.states = top :: rest ∧
      actionFor T top la = some a ∧ asReduce a = none) := by
  cases hs : c.states with
  | nil => exact .inl ⟨c, _, hph.step_nil hs, by simp⟩
  | cons top rest =>
    cases ha : actionFor T top la with
    | none => exact .inl ⟨c, _, hph.step_noAction hs ha, by simp⟩
    | some a =>
      cases hp : asReduce a with
      | none =>
        exact .inr (.inr ⟨halts_of_redInfo_none (by simp only [redInfo, ha, hp]), top, rest, a, rfl, ha, hp⟩)
      | some p =>
        rcases hph.step_reduce af failAt startLoc hs ha hp with
          hdone | ⟨c', ls, hred, hst⟩
        · exact .inl hdone
        · cases hred with
          | cont n A hn hlen hnf hlhs hstart below more hd =>
            refine .inr (.inl ⟨_, hst, ?_, rfl⟩)
            rw [locStep_of (redInfo_eq_some ha hp hlen hlhs hstart), ← hs, hd]

theorem loop_follow (hph : LoopPh T ph la) (af : Nat) (failAt : Option Nat) (startLoc : Int) {N : Nat}
    {st fin : List Nat} (hit : Iter T la N st fin) :
    ∀ c : Cfg, c.states = st →
    (∃ n c' r, n ≤ N ∧ run T af failAt startLoc n c ph = (c', .done r) ∧ r ≠ .panic .outOfFuel) ∨
    (∃ c', run T af failAt startLoc N c ph = (c', ph) ∧ c'.states = fin ∧ c'.input = c.input) := by
  induction hit with
  | refl st => exact fun c hc => .inr ⟨c, run_zero _ _ _ _ _ _, hc, rfl⟩
  | @step n st st' fin hs _ ih =>
    intro c hc
    subst hc
    rcases loop_step hph af failAt startLoc c with
      ⟨c', r, hst, hr⟩ | ⟨c', hst, hl, hin⟩ | ⟨hH, _⟩
    · exact .inl ⟨1, c', r, Nat.le_add_left 1 n, run_one hst, hr⟩
    · rw [hs] at hl
      cases hl
      rcases ih c' rfl with ⟨m, c'', r, hm, hrun, hr⟩ | ⟨c'', hrun, hfin, hin'⟩
      · exact .inl ⟨m + 1, c'', r, Nat.succ_le_succ hm, run_cons hst hrun, hr⟩
      · exact .inr ⟨c'', run_cons hst hrun, hfin, hin'.trans hin⟩
    · exact (hH _ hs).elim

/-- `parse`: shift the lookahead, or call `error_recovery` — then `accepts` answers `false` here -/
theorem act_exit (af : Nat) (failAt : Option Nat) (startLoc : Int) {c : Cfg} {top : Nat}
    {rest : List Nat} {a : Int} (tok : Tok) {idx : Term}
    (hs : c.states = top :: rest) (ha : T.actionAt top idx = some a) (hp : asReduce a = none) :
    (∃ t, asShift a = some t ∧ step T af failAt startLoc c (.act tok idx) =
        ({ c with states := t :: c.states, symbols := (tok.l, Tree.leaf tok, tok.r) :: c.symbols },
          .pull)) ∨
    (step T af failAt startLoc c (.act tok idx) = enterRecovery T af c (some (tok, idx)) false ∧
      ∀ k, accepts T (k + 1) c.states (some idx) = .ok false) := by
  cases hsh : asShift a with
  | some t => exact .inl ⟨t, rfl, by simp only [step, hs, ha, hsh]⟩
  | none =>
    refine .inr ⟨by simp only [step, hs, ha, hsh, hp], fun k => ?_⟩
    rw [hs]
    exact accepts_zero T rest k (eq_zero_of_asReduce_none (le_zero_of_asShift_none hsh) hp ▸ ha)

/-- `parse_eof`: call `error_recovery` -/
theorem eof_exit (af : Nat) (failAt : Option Nat) (startLoc : Int) {c : Cfg} {top : Nat} {rest : List Nat} {a : Int}
    (hs : c.states = top :: rest) (ha : T.eofActionAt top = some a) (hp : asReduce a = none) :
    step T af failAt startLoc c .eof = enterRecovery T af c none true ∧
      (a ≤ 0 → ∀ k, accepts T (k + 1) c.states none = .ok false) := by
  refine ⟨by simp only [step, hs, ha, hp], fun hle k => ?_⟩
  rw [hs]
  exact accepts_zero T rest k (eq_zero_of_asReduce_none hle hp ▸ ha)

/-- `error_recovery`: go on to `'find_state` -/
theorem rec_exit {c : Cfg} {top : Nat} {rest : List Nat} {a : Int} (la : Option (Tok × Term))
    (e : PErr) (fe : Bool) (hs : c.states = top :: rest) (ha : T.errorActionAt top = some a)
    (hp : asReduce a = none) :
    step T af failAt startLoc c (.recReduce la e fe) = (c, .recFind la e [] c.states.length fe) := by
  simp only [step, hs, ha, hp]

/-- The run from `(c, ph)` ends, not by the fuel stop of `accepts`, within `B` units of `F + 1` steps
    — provided `B ≤ X`, the stack height that the `accepts` fuel was chosen for (a budget also bounds
    the height the stack can still reach). With the proviso inside the notion, budgets are passed
    along without it, and a proof that needs it for the fuel takes it from `Ends.intro`. -/
structure Ends (T : Tables) (F af : Nat) (failAt : Option Nat) (startLoc : Int) (X : Nat) (c : Cfg)
    (ph : Phase) (B : Nat) : Prop where
  ex : B ≤ X → ∃ n c' r, run T af failAt startLoc n c ph = (c', .done r) ∧ r ≠ .panic .outOfFuel ∧
    n ≤ (F + 1) * B

variable {X : Nat}

theorem Ends.intro {c : Cfg} {B : Nat} (h : B ≤ X → Ends T F af failAt startLoc X c ph B) :
    Ends T F af failAt startLoc X c ph B :=
  ⟨fun hX => (h hX).ex hX⟩

theorem Ends.of_run {c c' : Cfg} {r : Outcome} {n U B : Nat}
    (hrun : run T af failAt startLoc n c ph = (c', .done r)) (hr : r ≠ .panic .outOfFuel)
    (hn : n ≤ (F + 1) * U) (hU : U ≤ B) : Ends T F af failAt startLoc X c ph B :=
  ⟨fun _ => ⟨n, c', r, hrun, hr, Nat.le_trans hn (Nat.mul_le_mul_left _ hU)⟩⟩

theorem Ends.mono {c : Cfg} {B B' : Nat} (h : Ends T F af failAt startLoc X c ph B) (hB : B ≤ B') :
    Ends T F af failAt startLoc X c ph B' := by
  refine .intro fun hX => ?_
  obtain ⟨n, c', r, hrun, hr, hn⟩ := h.ex (Nat.le_trans hB hX)
  exact .of_run hrun hr hn hB

theorem Ends.after {c c' : Cfg} {ph' : Phase} {n U B' B : Nat}
    (hrun : run T af failAt startLoc n c ph = (c', ph')) (hn : n ≤ (F + 1) * U) (hB : B' + U ≤ B)
    (h : Ends T F af failAt startLoc X c' ph' B') : Ends T F af failAt startLoc X c ph B := by
  refine ⟨fun hX => ?_⟩
  obtain ⟨n', c'', r, hrun', hr, hn'⟩ := h.ex (Nat.le_trans (Nat.le_of_add_right_le hB) hX)
  refine ⟨n + n', c'', r, by rw [run_add, hrun]; exact hrun', hr,
    Nat.le_trans ?_ (Nat.mul_le_mul_left _ hB)⟩
  rw [Nat.mul_add, Nat.add_comm n]
  exact Nat.add_le_add hn' hn

theorem one_unit (F : Nat) : 1 ≤ (F + 1) * 1 := by
  rw [Nat.mul_one]
  exact Nat.le_add_left 1 F

theorem Ends.single {c c' : Cfg} {ph' : Phase} {B' B : Nat}
    (hs : step T af failAt startLoc c ph = (c', ph')) (hB : B' + 1 ≤ B)
    (h : Ends T F af failAt startLoc X c' ph' B') : Ends T F af failAt startLoc X c ph B :=
  Ends.after (run_one hs) (one_unit F) hB h

theorem Ends.single_done {c c' : Cfg} {r : Outcome} {B : Nat}
    (hs : step T af failAt startLoc c ph = (c', .done r)) (hr : r ≠ .panic .outOfFuel) (hB : 1 ≤ B) :
    Ends T F af failAt startLoc X c ph B :=
  Ends.of_run (run_one hs) hr (one_unit F) hB

/-- a phase that frees `d` levels and adds fewer than `F` costs `d + 1` units: `F + 1` units of `need`
    pay for it and for the growth of the stack -/
theorem budget_step {h h' d F need need' : Nat} (hl : h' + d ≤ h + F) (hneed : need' + (F + 1) ≤ need) :
    h' + need' + (d + 1) ≤ h + need := by
  omega

theorem budget_done {h d F need : Nat} (hd : d + 1 ≤ h + F) (hneed : F ≤ need) : d + 1 ≤ h + need :=
  Nat.le_trans hd (Nat.add_le_add_left hneed h)

/-- the push of the error state -/
theorem budget_push {h h' need need' : Nat} (hlen : h' ≤ h + 1) (hneed : need' + 1 ≤ need) :
    h' + need' ≤ h + need := by
  omega

theorem budget_single {h need need' : Nat} (hneed : need' + 1 ≤ need) : h + need' + 1 ≤ h + need :=
  Nat.add_le_add_left hneed h

theorem fuel_le {X k : Nat} (haf : accFuel F X ≤ af) (h : k ≤ X) : accFuel F k ≤ af :=
  Nat.le_trans (accFuel_mono h) haf

end LalrpopModel.LR.Term
