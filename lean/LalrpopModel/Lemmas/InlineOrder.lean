import LalrpopModel.Model.Inline
/-!
Correctness of the depth-first walk of `inline_order` (`inline/graph/mod.rs`): it returns a
topological order of the inline graph exactly when the graph has no cycle, reports a node on a
cycle otherwise, and the fuel of the model never runs out.
-/
set_option linter.unusedSectionVars false

namespace LalrpopModel.Inline

variable {N : Type} [DecidableEq N]

/-- `y` is reachable from `x` by at least one edge -/
inductive ReachP (adj : N → List N) : N → N → Prop where
  | edge {x y} : y ∈ adj x → ReachP adj x y
  | step {x z y} : z ∈ adj x → ReachP adj z y → ReachP adj x y

namespace ReachP

theorem snoc {adj : N → List N} {x y z : N} (h : ReachP adj x y) (hz : z ∈ adj y) :
    ReachP adj x z := by
  induction h with
  | edge h => exact .step h (.edge hz)
  | step h _ ih => exact .step h (ih hz)

theorem trans {adj : N → List N} {x y z : N} (h : ReachP adj x y) (h2 : ReachP adj y z) :
    ReachP adj x z := by
  induction h with
  | edge h => exact .step h h2
  | step h _ ih => exact .step h (ih h2)

end ReachP

/-- every node's successors come later in the list (list in reverse order of emission) -/
def TopoRev (adj : N → List N) : List N → Prop
  | [] => True
  | v :: r => (∀ w ∈ adj v, w ∈ r) ∧ TopoRev adj r

/-- `l` is a topological order: the successors of every element occur before it -/
def Topo (adj : N → List N) (l : List N) : Prop := TopoRev adj l.reverse

theorem topo_snoc (adj : N → List N) (l : List N) (v : N) :
    Topo adj (l ++ [v]) ↔ (∀ w ∈ adj v, w ∈ l) ∧ Topo adj l := by
  simp [Topo, TopoRev]

theorem topoRev_succ_later {adj : N → List N} {pre post : List N} {x y : N}
    (h : TopoRev adj (pre ++ x :: post)) (hy : y ∈ adj x) : y ∈ post := by
  induction pre with
  | nil => exact h.1 y hy
  | cons a pre ih => exact ih h.2

theorem topoRev_reach_later {adj : N → List N} {pre post : List N} {x y : N}
    (h : TopoRev adj (pre ++ x :: post)) (hr : ReachP adj x y) : y ∈ post := by
  induction hr generalizing pre post with
  | edge hxy => exact topoRev_succ_later h hxy
  | @step x z y hxz _ ih =>
    obtain ⟨p₂, q₂, rfl⟩ := List.append_of_mem (topoRev_succ_later h hxz)
    rw [← List.cons_append, ← List.append_assoc] at h
    exact List.mem_append_right _ (List.mem_cons_of_mem _ (ih h))

theorem topo_no_self_reach {adj : N → List N} {l : List N} (h : Topo adj l) (hnd : l.Nodup)
    {x : N} (hx : x ∈ l) : ¬ ReachP adj x x := by
  intro hr
  obtain ⟨pre, post, hl⟩ := List.append_of_mem (List.mem_reverse.mpr hx)
  have hnd' : (pre ++ x :: post).Nodup := by
    rw [← hl, List.Nodup, List.pairwise_reverse]
    exact hnd.imp (fun h => h.symm)
  rw [Topo, hl] at h
  exact (List.nodup_cons.mp (List.nodup_append.mp hnd').2.1).1 (topoRev_reach_later h hr)

theorem setState_self (f : N → WalkState) (n : N) (s : WalkState) : setState f n s n = s :=
  if_pos rfl

theorem setState_ne (f : N → WalkState) {m n : N} (s : WalkState) (h : m ≠ n) :
    setState f n s m = f m :=
  if_neg h

def Advances (f f' : N → WalkState) : Prop :=
  ∀ v, f' v = f v ∨ (f v = .notVisited ∧ f' v = .visited)

namespace Advances
variable {f f' f'' : N → WalkState}

theorem refl (f : N → WalkState) : Advances f f := fun _ => .inl rfl

theorem trans (h : Advances f f') (h' : Advances f' f'') : Advances f f'' := fun v => by
  rcases h v with e | ⟨a, b⟩
  · rw [← e]
    exact h' v
  · rcases h' v with e' | ⟨a', _⟩
    · exact .inr ⟨a, e'.trans b⟩
    · rw [b] at a'
      cases a'

theorem visiting_iff (h : Advances f f') {v : N} : f' v = .visiting ↔ f v = .visiting := by
  rcases h v with e | ⟨a, b⟩
  · rw [e]
  · rw [a, b]
    exact ⟨nofun, nofun⟩

theorem visited (h : Advances f f') {v : N} (hv : f v = .visited) : f' v = .visited := by
  rcases h v with e | ⟨a, _⟩
  · rw [e, hv]
  · rw [hv] at a
    cases a

theorem notVisited (h : Advances f f') {v : N} (hv : f' v = .notVisited) : f v = .notVisited := by
  rcases h v with e | ⟨a, _⟩
  · rw [← e, hv]
  · exact a

theorem finish {src : N} (hs : f src = .notVisited) (h : Advances (setState f src .visiting) f') :
    Advances f (setState f' src .visited) := fun v => by
  by_cases hv : v = src
  · rw [hv, setState_self]
    exact .inr ⟨hs, rfl⟩
  · have := h v
    rwa [setState_ne _ _ hv] at this ⊢

end Advances

variable (nodes : List N) (adj : N → List N)

/-- number of nodes not yet visited -/
def nv (st : DfsState N) : Nat := nodes.countP fun v => st.states v = .notVisited

structure DfsInv (st : DfsState N) : Prop where
  visited_iff : ∀ v, st.states v = .visited ↔ v ∈ st.result
  nodup : st.result.Nodup
  topo : Topo adj st.result
  sub : ∀ v ∈ st.result, v ∈ nodes

namespace DfsInv
variable {nodes adj} {st : DfsState N} {src : N}

theorem not_mem (h : DfsInv nodes adj st) (hs : st.states src ≠ .visited) : src ∉ st.result :=
  fun hm => hs ((h.visited_iff src).mpr hm)

theorem mark (h : DfsInv nodes adj st) (hs : st.states src = .notVisited) :
    DfsInv nodes adj { st with states := setState st.states src .visiting } := by
  have hs : st.states src ≠ .visited := hs ▸ nofun
  refine ⟨fun v => ?_, h.nodup, h.topo, h.sub⟩
  show setState st.states src .visiting v = .visited ↔ v ∈ st.result
  by_cases hv : v = src
  · rw [hv, setState_self]
    exact ⟨nofun, fun hm => absurd hm (h.not_mem hs)⟩
  · rw [setState_ne _ _ hv]
    exact h.visited_iff v

theorem finish (h : DfsInv nodes adj st) (hsrc : src ∈ nodes) (hs : st.states src = .visiting)
    (hdone : ∀ w ∈ adj src, st.states w = .visited) :
    DfsInv nodes adj { states := setState st.states src .visited, result := st.result ++ [src] } := by
  have hs : st.states src ≠ .visited := hs ▸ nofun
  refine ⟨fun v => ?_, ?_, ?_, fun v hv => ?_⟩
  · show setState st.states src .visited v = .visited ↔ v ∈ st.result ++ [src]
    by_cases hv : v = src
    · rw [hv, setState_self]
      exact ⟨fun _ => List.mem_concat_self, fun _ => rfl⟩
    · rw [setState_ne _ _ hv, h.visited_iff, List.mem_append, List.mem_singleton]
      exact ⟨.inl, fun hm => hm.resolve_right hv⟩
  · exact List.nodup_append.mpr ⟨h.nodup, List.pairwise_singleton _ _, fun a ha b hb e =>
      h.not_mem hs (List.mem_singleton.mp hb ▸ e ▸ ha)⟩
  · exact (topo_snoc ..).mpr ⟨fun w hw => (h.visited_iff w).mp (hdone w hw), h.topo⟩
  · rcases List.mem_append.mp hv with hv | hv
    · exact h.sub v hv
    · exact List.mem_singleton.mp hv ▸ hsrc

end DfsInv

/-- what a (partial) walk from state `st` over the targets `done` may return: a finished search of
    `done`, a node on a cycle, or `outOfFuel` only if `fuel` is no more than the number of nodes not yet
    visited -/
def WalkPost (fuel : Nat) (st : DfsState N) (done : List N) :
    Except (OrderErr N) (DfsState N) → Prop
  | .ok st' => DfsInv nodes adj st' ∧ Advances st.states st'.states ∧
      ∀ t ∈ done, st'.states t = .visited
  | .error (.cycle c) => ReachP adj c c
  | .error .outOfFuel => fuel ≤ nv nodes st

theorem countP_lt {α : Type} {l : List α} {p q : α → Bool} (h : ∀ a, p a = true → q a = true)
    {x : α} (hx : x ∈ l) (hq : q x = true) (hp : p x = false) : l.countP p < l.countP q := by
  obtain ⟨l₁, l₂, rfl⟩ := List.append_of_mem hx
  have h₁ := List.countP_mono_left (l := l₁) fun a _ => h a
  have h₂ := List.countP_mono_left (l := l₂) fun a _ => h a
  rw [List.countP_append, List.countP_append, List.countP_cons, List.countP_cons, if_pos hq,
    if_neg (by rw [hp]; nofun)]
  omega

theorem nv_mono {st st' : DfsState N} (h : Advances st.states st'.states) :
    nv nodes st' ≤ nv nodes st :=
  List.countP_mono_left fun _ _ hv => decide_eq_true (h.notVisited (of_decide_eq_true hv))

theorem nv_set_lt {st : DfsState N} {src : N} (hsrc : src ∈ nodes) (hs : st.states src = .notVisited) :
    nv nodes { st with states := setState st.states src .visiting } < nv nodes st := by
  refine countP_lt (fun a ha => ?_) hsrc (decide_eq_true hs)
    (decide_eq_false (show ¬ setState st.states src .visiting src = .notVisited by
      rw [setState_self]; nofun))
  have ha : setState st.states src .visiting a = .notVisited := of_decide_eq_true ha
  by_cases h : a = src
  · rw [h, setState_self] at ha
    cases ha
  · rw [setState_ne _ _ h] at ha
    exact decide_eq_true ha

variable {nodes adj}

theorem outcome_trans {fuel : Nat} {st st₁ : DfsState N} {t : N} {ts : List N}
    (h₁ : WalkPost nodes adj fuel st [t] (.ok st₁)) {res : Except (OrderErr N) (DfsState N)}
    (h₂ : WalkPost nodes adj fuel st₁ ts res) : WalkPost nodes adj fuel st (t :: ts) res := by
  obtain ⟨_, adv₁, done₁⟩ := h₁
  match res, h₂ with
  | .error (.cycle _), h₂ => exact h₂
  | .error .outOfFuel, h₂ => exact Nat.le_trans h₂ (nv_mono nodes adv₁)
  | .ok st₂, ⟨inv₂, adv₂, done₂⟩ =>
    exact ⟨inv₂, adv₁.trans adv₂, fun t' ht' => (List.mem_cons.mp ht').elim
      (fun e => e ▸ adv₂.visited (done₁ t (List.mem_singleton_self t))) (done₂ t')⟩

variable (nodes adj)

/-- the loop over the neighbours, given the walk theorem for the same fuel -/
theorem walkList_outcome (fuel : Nat)
    (hwalk : ∀ (src : N) (st : DfsState N), DfsInv nodes adj st → src ∈ nodes →
      (∀ v, st.states v = .visiting → ReachP adj v src) →
      WalkPost nodes adj fuel st [src] (walk adj fuel src st))
    (targets : List N) (st : DfsState N) (hinv : DfsInv nodes adj st)
    (hsub : ∀ t ∈ targets, t ∈ nodes)
    (hreach : ∀ t ∈ targets, ∀ v, st.states v = .visiting → ReachP adj v t) :
    WalkPost nodes adj fuel st targets
      (targets.foldlM (fun st target => walk adj fuel target st) st) := by
  induction targets generalizing st with
  | nil => exact ⟨hinv, .refl _, nofun⟩
  | cons t ts ih =>
    have h₁ := hwalk t st hinv (hsub t (List.mem_cons_self ..)) (hreach t (List.mem_cons_self ..))
    rw [List.foldlM_cons]
    cases hres : walk adj fuel t st with
    | error e =>
      rw [hres] at h₁
      cases e with
      | cycle c => exact h₁
      | outOfFuel => exact h₁
    | ok st₁ =>
      rw [hres] at h₁
      exact outcome_trans h₁ (ih st₁ h₁.1 (fun t' h => hsub t' (List.mem_cons_of_mem _ h))
        fun t' h v hv => hreach t' (List.mem_cons_of_mem _ h) v (h₁.2.1.visiting_iff.mp hv))

/-- Every Visiting node reaches the current source, so meeting one closes a cycle; each level of the
    recursion marks a node that was not visited, so fuel above their number never runs out. -/
theorem walk_outcome (hadj : ∀ x, ∀ y ∈ adj x, y ∈ nodes) (fuel : Nat) :
    ∀ (src : N) (st : DfsState N), DfsInv nodes adj st → src ∈ nodes →
      (∀ v, st.states v = .visiting → ReachP adj v src) →
      WalkPost nodes adj fuel st [src] (walk adj fuel src st) := by
  induction fuel with
  | zero => intro src st _ _ _; exact Nat.zero_le _
  | succ fuel ih =>
    intro src st hinv hsrc hreach
    unfold walk
    cases hs : st.states src with
    | visited => exact ⟨hinv, .refl _, fun t ht => List.mem_singleton.mp ht ▸ hs⟩
    | visiting => exact hreach src hs
    | notVisited =>
      simp only []
      -- `src` is marked Visiting: everything on the stack reaches its neighbours
      have hl := walkList_outcome nodes adj fuel ih (adj src) _ (hinv.mark hs) (hadj src) (by
        intro t ht v hv
        by_cases hvs : v = src
        · exact hvs ▸ .edge ht
        · have hv : setState st.states src .visiting v = .visiting := hv
          rw [setState_ne _ _ hvs] at hv
          exact (hreach v hv).snoc ht)
      cases hres : (adj src).foldlM (fun st target => walk adj fuel target st)
          { st with states := setState st.states src .visiting } with
      | error e =>
        rw [hres] at hl
        cases e with
        | cycle c => exact hl
        | outOfFuel => exact Nat.succ_le_of_lt (Nat.lt_of_le_of_lt hl (nv_set_lt nodes hsrc hs))
      | ok st₂ =>
        rw [hres] at hl
        obtain ⟨inv₂, adv₂, done₂⟩ := hl
        exact ⟨inv₂.finish hsrc (adv₂.visiting_iff.mpr (setState_self ..)) done₂, adv₂.finish hs,
          fun t ht => List.mem_singleton.mp ht ▸ setState_self ..⟩

/-- the outer loop of `inline_order`, for an arbitrary graph -/
theorem order_outcome (hadj : ∀ x, ∀ y ∈ adj x, y ∈ nodes) :
    match nodes.foldlM (fun st node => walk adj (nodes.length + 1) node st)
        ({ states := fun _ => .notVisited, result := [] } : DfsState N) with
    | .ok st => st.result.Nodup ∧ (∀ x, x ∈ st.result ↔ x ∈ nodes) ∧ Topo adj st.result
    | .error (.cycle c) => ReachP adj c c
    | .error .outOfFuel => False := by
  have inv₀ : DfsInv nodes adj ({ states := fun _ => .notVisited, result := [] } : DfsState N) :=
    ⟨fun _ => ⟨nofun, nofun⟩, List.nodup_nil, trivial, nofun⟩
  have h := walkList_outcome nodes adj (nodes.length + 1)
    (walk_outcome nodes adj hadj (nodes.length + 1)) nodes _ inv₀ (fun _ h => h) (fun _ _ _ => nofun)
  revert h
  generalize nodes.foldlM (fun st node => walk adj (nodes.length + 1) node st) _ = res
  intro h
  match res, h with
  | .error (.cycle _), h => exact h
  | .error .outOfFuel, h =>
    -- more fuel than nodes
    exact Nat.not_succ_le_self _ (Nat.le_trans h (List.countP_le_length))
  | .ok st, ⟨inv, _, done⟩ =>
    exact ⟨inv.nodup, fun x => ⟨inv.sub x, fun hx => (inv.visited_iff x).mp (done x hx)⟩, inv.topo⟩

end LalrpopModel.Inline
