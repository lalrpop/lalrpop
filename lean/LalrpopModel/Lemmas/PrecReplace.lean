import LalrpopModel.Model.Prec
/-!
Declarative description of `replace_symbols`: the recursive occurrences of the target are
numbered `0, 1, …` in left-to-right pre-order through groups, repeats, bindings and macro
arguments; `substAt f` puts `f k` at occurrence number `k` and changes nothing else.
`replaceSym_eq` says that the fold in direction `dir` hands the plan's `j`-th symbol to the
occurrence it visits `j`-th (`Dir.rank`).
-/
namespace LalrpopModel.Prec
open LalrpopModel.PT

mutual
/-- number of occurrences of `Nonterminal(target)` (pre-order; a macro's own name does not count) -/
def occ (t : Str) : Sym → Nat
  | .nonterminal n => if n = t then 1 else 0
  | .macro _ args => occL t args
  | .expr syms => occL t syms
  | .repeat _ s => occ t s
  | .choose s => occ t s
  | .name _ s => occ t s
  | .tuple _ s => occ t s
  | .ambiguous _ => 0
  | .terminal _ => 0
  | .error => 0
  | .lookahead => 0
  | .lookbehind => 0
def occL (t : Str) : List Sym → Nat
  | [] => 0
  | x :: xs => occ t x + occL t xs
end

mutual
/-- replace occurrence number `k + i` (the `i`-th inside this symbol) by `f (k + i)` -/
def substAt (t : Str) (f : Nat → Sym) (k : Nat) : Sym → Sym
  | .nonterminal n => if n = t then f k else .nonterminal n
  | .macro name args => .macro name (substAtL t f k args)
  | .expr syms => .expr (substAtL t f k syms)
  | .repeat op s => .repeat op (substAt t f k s)
  | .choose s => .choose (substAt t f k s)
  | .name n s => .name n (substAt t f k s)
  | .tuple tp s => .tuple tp (substAt t f k s)
  | .ambiguous id => .ambiguous id
  | .terminal x => .terminal x
  | .error => .error
  | .lookahead => .lookahead
  | .lookbehind => .lookbehind
def substAtL (t : Str) (f : Nat → Sym) (k : Nat) : List Sym → List Sym
  | [] => []
  | x :: xs => substAt t f k x :: substAtL t f (k + occ t x) xs
end

mutual
/-- no `AmbiguousId` anywhere (what `resolve` establishes) -/
def noAmbig : Sym → Bool
  | .ambiguous _ => false
  | .macro _ args => noAmbigL args
  | .expr syms => noAmbigL syms
  | .repeat _ s => noAmbig s
  | .choose s => noAmbig s
  | .name _ s => noAmbig s
  | .tuple _ s => noAmbig s
  | .nonterminal _ => true
  | .terminal _ => true
  | .error => true
  | .lookahead => true
  | .lookbehind => true
def noAmbigL : List Sym → Bool
  | [] => true
  | x :: xs => noAmbig x && noAmbigL xs
end

/-- the symbol the plan assigns to the `j`-th occurrence it meets -/
def Subst.pick : Subst → Nat → Sym
  | .every a, _ => a
  | .oneThen a _, 0 => a
  | .oneThen _ b, _ + 1 => b

/-- the plan after `n` occurrences have been met -/
def Subst.advance : Subst → Nat → Subst
  | s, 0 => s
  | .every a, _ + 1 => .every a
  | .oneThen _ b, _ + 1 => .every b

namespace Subst

theorem advance_zero (s : Subst) : s.advance 0 = s := by
  cases s <;> rfl

theorem advance_add (s : Subst) (m n : Nat) : (s.advance m).advance n = s.advance (m + n) := by
  cases m with
  | zero => rw [advance_zero, Nat.zero_add]
  | succ m =>
    cases n with
    | zero => rfl
    | succ n => cases s <;> rfl

theorem pick_advance (s : Subst) (m j : Nat) : (s.advance m).pick j = s.pick (m + j) := by
  cases m with
  | zero => rw [advance_zero, Nat.zero_add]
  | succ m =>
    rw [Nat.succ_add]
    cases s <;> rfl

theorem advance_every (a : Sym) (n : Nat) : (Subst.every a).advance n = .every a := by
  cases n <;> rfl

theorem advance_oneThen (a b : Sym) (n : Nat) :
    (Subst.oneThen a b).advance n = if n = 0 then .oneThen a b else .every b := by
  cases n <;> rfl

theorem pick_oneThen (a b : Sym) (j : Nat) :
    (Subst.oneThen a b).pick j = if j = 0 then a else b := by
  cases j <;> rfl

end Subst

/-- place in the visiting order of the `j`-th (left to right) of `n` occurrences: the forward fold
    meets them in order, the backward fold last first -/
def Dir.rank : Dir → Nat → Nat → Nat
  | .forward, _, j => j
  | .backward, n, j => n - (j + 1)

mutual
/-- For any `f` that agrees with the plan in visiting order on the occurrences inside `s` (numbered
    from `k`), the fold returns `substAt t f k s` and the plan advanced by their number.  Stating it
    for all such `f`, not for the one closed form, lets the induction pass `f` down unchanged. -/
theorem replaceSym_eq (dir : Dir) (t : Str) (subst : Subst) (f : Nat → Sym) (k : Nat) (s : Sym)
    (h : noAmbig s = true)
    (hf : ∀ j, j < occ t s → f (k + j) = subst.pick (dir.rank (occ t s) j)) :
    replaceSym dir t subst s = .ok (substAt t f k s, subst.advance (occ t s)) := by
  cases s with
  | nonterminal n =>
    by_cases hn : n = t
    · simp only [replaceSym, substAt, occ, if_pos hn] at hf ⊢
      have h0 : f k = subst.pick 0 := (hf 0 Nat.one_pos).trans (by cases dir <;> rfl)
      rw [h0]
      cases subst <;> rfl
    · simp only [replaceSym, substAt, occ, if_neg hn, Subst.advance_zero]
  | «macro» _ l | expr l =>
    cases dir with
    | forward => simp only [replaceSym, substAt, occ, replaceFwd_eq t subst f k l h hf]
    | backward => simp only [replaceSym, substAt, occ, replaceBwd_eq t subst f k l h hf]
  | «repeat» _ s | choose s | name _ s | tuple _ s =>
    simp only [replaceSym, substAt, occ, replaceSym_eq dir t subst f k s h hf]
  | ambiguous _ => cases h
  | terminal _ | error | lookahead | lookbehind => simp only [replaceSym, substAt, occ, Subst.advance_zero]
theorem replaceFwd_eq (t : Str) (subst : Subst) (f : Nat → Sym) (k : Nat) (l : List Sym)
    (h : noAmbigL l = true) (hf : ∀ j, j < occL t l → f (k + j) = subst.pick j) :
    replaceFwd .forward t subst l = .ok (substAtL t f k l, subst.advance (occL t l)) := by
  cases l with
  | nil => simp only [replaceFwd, substAtL, occL, Subst.advance_zero]
  | cons x xs =>
    simp only [noAmbigL, Bool.and_eq_true] at h
    simp only [replaceFwd, substAtL, occL] at hf ⊢
    rw [replaceSym_eq .forward t subst f k x h.1 (fun j hj => hf j (Nat.lt_add_right _ hj))]
    simp only []
    rw [replaceFwd_eq t (subst.advance (occ t x)) f (k + occ t x) xs h.2
      (fun j hj => by
        rw [Nat.add_assoc, Subst.pick_advance]
        exact hf _ (Nat.add_lt_add_left hj _)),
      Subst.advance_add]
theorem replaceBwd_eq (t : Str) (subst : Subst) (f : Nat → Sym) (k : Nat) (l : List Sym)
    (h : noAmbigL l = true) (hf : ∀ j, j < occL t l → f (k + j) = subst.pick (occL t l - (j + 1))) :
    replaceBwd .backward t subst l = .ok (substAtL t f k l, subst.advance (occL t l)) := by
  cases l with
  | nil => simp only [replaceBwd, substAtL, occL, Subst.advance_zero]
  | cons x xs =>
    simp only [noAmbigL, Bool.and_eq_true] at h
    simp only [replaceBwd, substAtL, occL] at hf ⊢
    -- the tail is visited first: its occurrences keep their rank, those of the head come after them
    rw [replaceBwd_eq t subst f (k + occ t x) xs h.2
      (fun j hj => by
        rw [Nat.add_assoc, hf _ (Nat.add_lt_add_left hj _), Nat.add_assoc, Nat.add_sub_add_left])]
    simp only []
    rw [replaceSym_eq .backward t (subst.advance (occL t xs)) f k x h.1
      (fun j hj => by
        rw [Subst.pick_advance, hf j (Nat.lt_add_right _ hj), Nat.add_comm (occ t x),
          Nat.add_sub_assoc hj]
        rfl),
      Subst.advance_add, Nat.add_comm]
end

theorem pick_oneThen_backward (a b : Sym) (n j : Nat) (h : j < n) :
    (Subst.oneThen a b).pick (Dir.backward.rank n j) = if j + 1 = n then a else b := by
  have e : n - (j + 1) = 0 ↔ j + 1 = n :=
    Nat.sub_eq_zero_iff_le.trans ⟨fun h' => Nat.le_antisymm h h', fun e => Nat.le_of_eq e.symm⟩
  show (Subst.oneThen a b).pick (n - (j + 1)) = _
  rw [Subst.pick_oneThen, ite_congr (propext e) (fun _ => rfl) (fun _ => rfl)]

theorem replaceSymbols_eq (dir : Dir) (t : Str) (subst : Subst) (f : Nat → Sym) (l : List Sym)
    (h : noAmbigL l = true) (hf : ∀ j, j < occL t l → f j = subst.pick (dir.rank (occL t l) j)) :
    replaceSymbols dir t subst l = .ok (substAtL t f 0 l, subst.advance (occL t l)) := by
  cases dir with
  | forward => exact replaceFwd_eq t subst f 0 l h (fun j hj => by rw [Nat.zero_add]; exact hf j hj)
  | backward => exact replaceBwd_eq t subst f 0 l h (fun j hj => by rw [Nat.zero_add]; exact hf j hj)

/-- forward fold: occurrence `k + i` receives `pick subst i` -/
theorem replaceSym_fwd (t : Str) (subst : Subst) (k : Nat) (s : Sym) (h : noAmbig s = true) :
    replaceSym .forward t subst s =
      .ok (substAt t (fun i => subst.pick (i - k)) k s, subst.advance (occ t s)) :=
  replaceSym_eq .forward t subst _ k s h
    (fun _ _ => congrArg subst.pick (Nat.add_sub_cancel_left ..))

/-- backward fold: occurrence `k + i` of the `n` occurrences receives `pick subst (n - 1 - i)` -/
theorem replaceSym_bwd (t : Str) (subst : Subst) (k : Nat) (s : Sym) (h : noAmbig s = true) :
    replaceSym .backward t subst s =
      .ok (substAt t (fun i => subst.pick (k + occ t s - 1 - i)) k s, subst.advance (occ t s)) :=
  replaceSym_eq .backward t subst _ k s h
    (fun j _ => congrArg subst.pick (by
      rw [Nat.sub_sub, Nat.add_left_comm, Nat.add_comm 1 j, Nat.add_sub_add_left]
      rfl))

end LalrpopModel.Prec
