import LalrpopModel.Model.HashOrder
/-! Facts about the container of `Model/HashOrder.lean` that involve no order parameter. -/

theorem List.Perm.eq_of_length_le_one {α : Type} {a b : List α} (h : a.Perm b) (hl : a.length ≤ 1) :
    a = b := by
  match a, hl with
  | [], _ => exact h.nil_eq
  | [x], _ => exact (List.perm_singleton.mp h.symm).symm

namespace LalrpopModel.HashOrder

variable {K V : Type}

theorem insertAt_perm (l : List (K × V)) (n : Nat) (x : K × V) : (insertAt l n x).Perm (x :: l) := by
  unfold insertAt
  have := List.perm_middle (a := x) (l₁ := l.take n) (l₂ := l.drop n)
  simpa using this

variable [DecidableEq K]

theorem entriesOf_length (m : List (K × V)) (k : K) : (entriesOf m k).length = (m.map (·.1)).count k := by
  rw [List.count, List.countP_map, List.countP_eq_length_filter]
  rfl

theorem lookup_none_iff (m : List (K × V)) (k : K) : lookup m k = none ↔ k ∉ m.map (·.1) := by
  rw [← List.count_eq_zero, ← entriesOf_length, List.length_eq_zero_iff, lookup, Option.map_eq_none_iff,
    List.head?_eq_none_iff]

end LalrpopModel.HashOrder
