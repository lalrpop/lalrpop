import LalrpopModel.Model.Dfa
/-!
Ranges as sets of symbols (`mem`, `Disj`, `Sub`), the index search `findFrom`, and the cut of two overlapping
ranges into the three pieces `add_range` works with (`Cut`, `pieces_cut`).
-/
namespace LalrpopModel.Dfa

/-- `c` lies in the inclusive range `r` -/
def mem (c : Nat) (r : Range) : Prop := r.1 ≤ c ∧ c ≤ r.2
def Disj (a b : Range) : Prop := ∀ c, ¬ (mem c a ∧ mem c b)
def Sub (a b : Range) : Prop := ∀ c, mem c a → mem c b

theorem intersects_iff (a b : Range) : intersects a b = true ↔ ∃ c, mem c a ∧ mem c b := by
  simp only [intersects, isEmpty, contains, mem, Bool.and_eq_true, Bool.not_eq_true',
    decide_eq_false_iff_not, Bool.or_eq_true, decide_eq_true_eq, Nat.not_lt]
  constructor
  · rintro ⟨⟨h1, h2⟩, h3 | h3⟩
    · exact ⟨b.1, h3, Nat.le_refl _, h2⟩
    · exact ⟨a.1, ⟨Nat.le_refl _, h1⟩, h3⟩
  · rintro ⟨c, h1, h2⟩
    refine ⟨⟨Nat.le_trans h1.1 h1.2, Nat.le_trans h2.1 h2.2⟩, ?_⟩
    rcases Nat.le_total a.1 b.1 with h | h
    · exact .inl ⟨h, Nat.le_trans h2.1 h1.2⟩
    · exact .inr ⟨h, Nat.le_trans h1.1 h2.2⟩

theorem not_intersects_iff (a b : Range) : intersects a b = false ↔ Disj a b := by
  rw [← Bool.not_eq_true, intersects_iff]
  simp [Disj]

theorem Disj.symm {a b : Range} (h : Disj a b) : Disj b a := fun c hc => h c ⟨hc.2, hc.1⟩
theorem Disj.of_sub {a a' b : Range} (h : Disj a b) (hs : Sub a' a) : Disj a' b :=
  fun c hc => h c ⟨hs c hc.1, hc.2⟩
theorem Sub.trans {a b c : Range} (h1 : Sub a b) (h2 : Sub b c) : Sub a c := fun x hx => h2 x (h1 x hx)
theorem Sub.refl (a : Range) : Sub a a := fun _ h => h
theorem isEmpty_eq_false_iff (r : Range) : isEmpty r = false ↔ mem r.1 r := by
  simp only [isEmpty, mem, decide_eq_false_iff_not, Nat.not_lt, Nat.le_refl, true_and]
theorem not_isEmpty_of_mem {c : Nat} {r : Range} (h : mem c r) : isEmpty r = false :=
  decide_eq_false (Nat.not_lt.mpr (Nat.le_trans h.1 h.2))
theorem isEmpty_disj {a : Range} (h : isEmpty a = true) (b : Range) : Disj a b := by
  intro c hc
  rw [not_isEmpty_of_mem hc.1] at h
  cases h

theorem findFromAux_some {p : Range → Bool} {v : List Range} {start i idx : Nat}
    (h : findFromAux p v start i = some idx) :
    ∃ j r, idx = i + j ∧ start ≤ idx ∧ v[j]? = some r ∧ p r = true ∧
      ∀ j' r', j' < j → start ≤ i + j' → v[j']? = some r' → p r' = false := by
  induction v generalizing i with
  | nil => cases h
  | cons r rs ih =>
    simp only [findFromAux] at h
    split at h
    · rename_i hc
      cases h
      simp only [Bool.and_eq_true, decide_eq_true_eq] at hc
      exact ⟨0, r, rfl, hc.1, rfl, hc.2, fun j' _ hj => absurd hj (Nat.not_lt_zero _)⟩
    · rename_i hc
      obtain ⟨j, r', rfl, hs, hv, hp, hb⟩ := ih h
      refine ⟨j + 1, r', by omega, hs, hv, hp, ?_⟩
      intro j' r'' hj hs' hv'
      cases j' with
      | zero =>
        cases hv'
        simp only [Bool.and_eq_true, decide_eq_true_eq, not_and, Bool.not_eq_true] at hc
        exact hc hs'
      | succ j' => exact hb j' r'' (by omega) (by omega) hv'

theorem findFromAux_none {p : Range → Bool} {v : List Range} {start i : Nat}
    (h : findFromAux p v start i = none) :
    ∀ j r, start ≤ i + j → v[j]? = some r → p r = false := by
  induction v generalizing i with
  | nil => intro j r _ hv; cases hv
  | cons r rs ih =>
    simp only [findFromAux] at h
    split at h
    · cases h
    · rename_i hc
      intro j r' hs hv
      cases j with
      | zero =>
        cases hv
        simp only [Bool.and_eq_true, decide_eq_true_eq, not_and, Bool.not_eq_true] at hc
        exact hc hs
      | succ j => exact ih h j r' (by omega) hv

theorem findFrom_some {p : Range → Bool} {v : List Range} {start idx : Nat}
    (h : findFrom p v start = some idx) :
    start ≤ idx ∧ idx < v.length ∧ (∃ r, v[idx]? = some r ∧ p r = true) ∧
      ∀ j r, start ≤ j → j < idx → v[j]? = some r → p r = false := by
  obtain ⟨j, r, rfl, hs, hv, hp, hb⟩ := findFromAux_some h
  rw [Nat.zero_add] at hs ⊢
  exact ⟨hs, (List.getElem?_eq_some_iff.mp hv).1, ⟨r, hv, hp⟩,
    fun j' r' hs' hj hv' => hb j' r' hj (by omega) hv'⟩

theorem findFrom_none {p : Range → Bool} {v : List Range} {start : Nat}
    (h : findFrom p v start = none) : ∀ j r, start ≤ j → v[j]? = some r → p r = false :=
  fun j r hs hv => findFromAux_none h j r (by omega) hv

/-- `P` is a part of exactly one of the two ranges -/
def OneSided (P range o : Range) : Prop := (Sub P range ∧ Disj P o) ∨ (Sub P o ∧ Disj P range)

theorem OneSided.mem {P range o : Range} (h : OneSided P range o) {c : Nat} (hc : mem c P) :
    mem c range ∨ mem c o :=
  Or.elim h (fun h => .inl (h.1 c hc)) fun h => .inr (h.1 c hc)

/-- what `add_range` relies on when it cuts `range` and an overlapping `o` into `low`, `mid`, `mx`:
the three are disjoint and make up the union, `mid` is the intersection, and each of `low`, `mx`
belongs to one of the two ranges only -/
structure Cut (range o low mid mx : Range) : Prop where
  cover : ∀ c, mem c range ∨ mem c o → mem c low ∨ mem c mid ∨ mem c mx
  mid_range : Sub mid range
  mid_o : Sub mid o
  low_side : OneSided low range o
  mx_side : OneSided mx range o
  low_mid : Disj low mid
  low_mx : Disj low mx
  mid_mx : Disj mid mx

theorem mem_pieces_low (r o : Range) (x : Nat) :
    mem x (pieces r o).1 ↔ min r.1 o.1 ≤ x ∧ x < max r.1 o.1 := by
  show mem x (if max r.1 o.1 = 0 then (1, 0) else (min r.1 o.1, max r.1 o.1 - 1)) ↔ _
  generalize max r.1 o.1 = M
  by_cases hM : M = 0
  · rw [if_pos hM, hM]
    exact ⟨fun h => absurd (Nat.le_trans h.1 h.2) (by decide), fun h => absurd h.2 (Nat.not_lt_zero x)⟩
  · rw [if_neg hM]
    exact and_congr_right fun _ => Nat.le_sub_one_iff_lt (Nat.pos_of_ne_zero hM)

theorem low_side_of_le {r o p : Range} (hi : o.1 ≤ r.2)
    (hp : ∀ x, mem x p ↔ r.1 ≤ x ∧ x < o.1) : Sub p r ∧ Disj p o :=
  ⟨fun x hx => ⟨((hp x).mp hx).1, Nat.le_trans (Nat.le_of_lt ((hp x).mp hx).2) hi⟩,
   fun x hx => Nat.lt_irrefl x (Nat.lt_of_lt_of_le ((hp x).mp hx.1).2 hx.2.1)⟩

theorem high_side_of_le {r o p : Range} (hi : o.1 ≤ r.2)
    (hp : ∀ x, mem x p ↔ r.2 < x ∧ x ≤ o.2) : Sub p o ∧ Disj p r :=
  ⟨fun x hx => ⟨Nat.le_trans hi (Nat.le_of_lt ((hp x).mp hx).1), ((hp x).mp hx).2⟩,
   fun x hx => Nat.lt_irrefl x (Nat.lt_of_le_of_lt hx.2.2 ((hp x).mp hx.1).1)⟩

theorem disj_of_lt_le {p q : Range} {k : Nat} (hp : ∀ x, mem x p → x < k) (hq : ∀ x, mem x q → k ≤ x) :
    Disj p q :=
  fun x hx => Nat.lt_irrefl x (Nat.lt_of_lt_of_le (hp x hx.1) (hq x hx.2))

theorem pieces_cut {range o : Range} (hi : ∃ c, mem c range ∧ mem c o) :
    Cut range o (pieces range o).1 (pieces range o).2.1 (pieces range o).2.2 := by
  obtain ⟨c0, ⟨h1, h2⟩, h3, h4⟩ := hi
  have hro : range.1 ≤ o.2 := Nat.le_trans h1 h4
  have hor : o.1 ≤ range.2 := Nat.le_trans h3 h2
  have hl := mem_pieces_low range o
  have hm : ∀ x, mem x (pieces range o).2.1 ↔ max range.1 o.1 ≤ x ∧ x ≤ min range.2 o.2 :=
    fun _ => Iff.rfl
  have hh : ∀ x, mem x (pieces range o).2.2 ↔ min range.2 o.2 < x ∧ x ≤ max range.2 o.2 :=
    fun _ => Iff.rfl
  have hmid : ∀ x, mem x (pieces range o).2.1 ↔ mem x range ∧ mem x o := by
    intro x
    rw [hm, Nat.max_le, Nat.le_min]
    exact and_and_and_comm
  have low : OneSided (pieces range o).1 range o := by
    rcases Nat.le_total range.1 o.1 with h | h
    · rw [Nat.min_eq_left h, Nat.max_eq_right h] at hl
      exact .inl (low_side_of_le hor hl)
    · rw [Nat.min_eq_right h, Nat.max_eq_left h] at hl
      exact .inr (low_side_of_le hro hl)
  have high : OneSided (pieces range o).2.2 range o := by
    rcases Nat.le_total range.2 o.2 with h | h
    · rw [Nat.min_eq_left h, Nat.max_eq_right h] at hh
      exact .inr (high_side_of_le hor hh)
    · rw [Nat.min_eq_right h, Nat.max_eq_left h] at hh
      exact .inl (high_side_of_le hro hh)
  have hMm : max range.1 o.1 ≤ min range.2 o.2 :=
    Nat.max_le.mpr ⟨Nat.le_min.mpr ⟨Nat.le_trans h1 h2, hro⟩, Nat.le_min.mpr ⟨hor, Nat.le_trans h3 h4⟩⟩
  -- a point of either range is below, inside or above the intersection
  have cover : ∀ {r : Range} {x : Nat}, min range.1 o.1 ≤ r.1 → r.2 ≤ max range.2 o.2 → mem x r →
      mem x (pieces range o).1 ∨ mem x (pieces range o).2.1 ∨ mem x (pieces range o).2.2 := by
    intro r x hlo hhi hx
    rcases Nat.lt_or_ge x (max range.1 o.1) with a | a
    · exact .inl ((hl x).mpr ⟨Nat.le_trans hlo hx.1, a⟩)
    · rcases Nat.lt_or_ge (min range.2 o.2) x with b | b
      · exact .inr (.inr ((hh x).mpr ⟨b, Nat.le_trans hx.2 hhi⟩))
      · exact .inr (.inl ((hm x).mpr ⟨a, b⟩))
  exact ⟨fun x h => h.elim (cover (Nat.min_le_left _ _) (Nat.le_max_left _ _))
      (cover (Nat.min_le_right _ _) (Nat.le_max_right _ _)),
    fun x hx => ((hmid x).mp hx).1, fun x hx => ((hmid x).mp hx).2, low, high,
    disj_of_lt_le (fun x h => ((hl x).mp h).2) (fun x h => ((hm x).mp h).1),
    disj_of_lt_le (fun x h => ((hl x).mp h).2) (fun x h => Nat.le_trans hMm (Nat.le_of_lt ((hh x).mp h).1)),
    disj_of_lt_le (fun x h => Nat.lt_succ_of_le ((hm x).mp h).2) (fun x h => ((hh x).mp h).1)⟩

end LalrpopModel.Dfa
