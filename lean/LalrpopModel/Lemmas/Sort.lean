import LalrpopModel.Model.Dfa
/-! insertion sort: permutation and sortedness -/
namespace LalrpopModel.Dfa

theorem insertBy_perm {α : Type} (le : α → α → Bool) (a : α) : ∀ l : List α, (insertBy le a l).Perm (a :: l)
  | [] => List.Perm.refl _
  | b :: l => by
    simp only [insertBy]
    split
    · exact List.Perm.refl _
    · exact ((insertBy_perm le a l).cons b).trans (List.Perm.swap a b l)

theorem isort_perm {α : Type} (le : α → α → Bool) : ∀ l : List α, (isort le l).Perm l
  | [] => List.Perm.refl _
  | a :: l => (insertBy_perm le a (isort le l)).trans ((isort_perm le l).cons a)

theorem mem_isort {α : Type} {le : α → α → Bool} {a : α} {l : List α} : a ∈ isort le l ↔ a ∈ l :=
  (isort_perm le l).mem_iff

theorem insertBy_pairwise {α : Type} {le : α → α → Bool} {R : α → α → Prop}
    (htrans : ∀ a b c, R a b → R b c → R a c) (h1 : ∀ a b, le a b = true → R a b)
    (h2 : ∀ a b, le a b = false → R b a) (a : α) (l : List α) (h : l.Pairwise R) :
    (insertBy le a l).Pairwise R := by
  induction l with
  | nil => exact List.pairwise_singleton R a
  | cons b l ih =>
    obtain ⟨hb, hl⟩ := List.pairwise_cons.mp h
    rw [insertBy]
    by_cases hab : le a b = true
    · rw [if_pos hab]
      refine List.pairwise_cons.mpr ⟨fun x hx => ?_, h⟩
      rcases List.mem_cons.mp hx with rfl | hx
      · exact h1 _ _ hab
      · exact htrans _ _ _ (h1 _ _ hab) (hb x hx)
    · rw [if_neg hab]
      refine List.pairwise_cons.mpr ⟨fun x hx => ?_, ih hl⟩
      rcases List.mem_cons.mp ((insertBy_perm le a l).mem_iff.mp hx) with rfl | hx
      · exact h2 _ _ (Bool.eq_false_iff.mpr hab)
      · exact hb x hx

theorem isort_pairwise {α : Type} {le : α → α → Bool} {R : α → α → Prop}
    (htrans : ∀ a b c, R a b → R b c → R a c) (h1 : ∀ a b, le a b = true → R a b)
    (h2 : ∀ a b, le a b = false → R b a) : ∀ l : List α, (isort le l).Pairwise R
  | [] => List.Pairwise.nil
  | a :: l => insertBy_pairwise htrans h1 h2 a _ (isort_pairwise htrans h1 h2 l)

end LalrpopModel.Dfa
