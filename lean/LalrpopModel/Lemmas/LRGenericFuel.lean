import LalrpopModel.Lemmas.LRGenericBasic
import LalrpopModel.Lemmas.LRDriver
/-!
Fuel monotonicity of the M-LR driver for arbitrary tables: the only effect of the `accepts` fuel
`af` is the outcome `panic .outOfFuel`; any other result is reproduced with more fuel of either kind.
-/
namespace LalrpopModel.LR.Generic
open LalrpopModel.LR
variable (T : Tables) (failAt : Option Nat) (startLoc : Int)

def FuelLe {α : Type} (r r' : Except PanicTag α) : Prop := r = .error .outOfFuel ∨ r' = r

theorem FuelLe.refl {α : Type} (r : Except PanicTag α) : FuelLe r r := .inr rfl

theorem accepts_fuelLe {af af' : Nat} (hle : af ≤ af') (st : List Nat) (i : Option Term) :
    FuelLe (accepts T af st i) (accepts T af' st i) := by
  induction af generalizing st af' with
  | zero => exact .inl rfl
  | succ af ih =>
    obtain ⟨k, rfl⟩ : ∃ k, af' = k + 1 := ⟨af' - 1, by omega⟩
    cases st with
    | nil => exact .inr rfl
    | cons top rest =>
      -- both sides run the same iteration; the fuel only shows in the recursive call
      rw [accepts_succ, accepts_succ]
      cases actionFor T top i with
      | none => exact .refl _
      | some a =>
        simp only
        split
        · exact .refl _
        · cases asReduce a with
          | none => exact .refl _
          | some p =>
            simp only
            split
            · split
              · exact .refl _
              · split
                · exact .refl _
                · split
                  · exact .refl _
                  · exact ih (Nat.le_of_succ_le_succ hle) _
            · exact .refl _

theorem accepts_mono {af : Nat} {st : List Nat} {i : Option Term}
    (h : accepts T af st i ≠ .error .outOfFuel) {af' : Nat} (hle : af ≤ af') :
    accepts T af' st i = accepts T af st i :=
  (accepts_fuelLe T hle st i).resolve_left h

theorem expectedLoop_fuelLe {af af' : Nat} (hle : af ≤ af') (st : List Nat) (k i : Nat) :
    FuelLe (expectedLoop T af st k i) (expectedLoop T af' st k i) := by
  induction k generalizing i with
  | zero => exact .refl _
  | succ k ih =>
    simp only [expectedLoop]
    rcases accepts_fuelLe T hle st (some i) with h | h
    · rw [h]; exact .inl rfl
    · rw [h]
      cases accepts T af st (some i) with
      | error e => exact .refl _
      | ok b =>
        rcases ih (i + 1) with h | h
        · rw [h]; exact .inl rfl
        · rw [h]; exact .refl _

theorem expected_fuelLe {af af' : Nat} (hle : af ≤ af') (st : List Nat) :
    FuelLe (expected T af st) (expected T af' st) := expectedLoop_fuelLe T hle st _ _

theorem findState_fuelLe {af af' : Nat} (hle : af ≤ af') (oi : Option Term) (sl : Nat) (st : List Nat) (k : Nat) :
    FuelLe (findState T af oi sl st k) (findState T af' oi sl st k) := by
  induction k with
  | zero => exact .refl _
  | succ k ih =>
    simp only [findState]
    cases truncBot st (k + 1) with
    | nil => exact .refl _
    | cons s rest =>
      simp only
      cases T.errorActionAt s with
      | none => exact .refl _
      | some a =>
        simp only
        cases asShift a with
        | none => exact ih
        | some es =>
          simp only
          rcases accepts_fuelLe T hle (es :: s :: rest) oi with h | h
          · rw [h]; exact .inl rfl
          · rw [h]
            cases accepts T af (es :: s :: rest) oi with
            | error e => exact .refl _
            | ok b =>
              cases b with
              | true => exact .refl _
              | false => exact ih

theorem nextToken_fuelLe {af af' : Nat} (hle : af ≤ af') (c : Cfg) :
    (nextToken T af c).2 = .done (.panic .outOfFuel) ∨ nextToken T af' c = nextToken T af c := by
  simp only [nextToken, unrecognizedError]
  cases c.input with
  | nil => exact .inr rfl
  | cons it rest =>
    cases it with
    | err e => exact .inr rfl
    | tok t =>
      simp only
      cases t.kind with
      | some i => exact .inr rfl
      | none =>
        simp only
        rcases expected_fuelLe T hle c.states with h | h
        · rw [h]; exact .inl rfl
        · rw [h]; exact .inr rfl

theorem enterRecovery_fuelLe {af af' : Nat} (hle : af ≤ af') (c : Cfg) (la : Option (Tok × Term)) (fe : Bool) :
    (enterRecovery T af c la fe).2 = .done (.panic .outOfFuel) ∨
      enterRecovery T af' c la fe = enterRecovery T af c la fe := by
  simp only [enterRecovery, unrecognizedError_eq]
  rcases expected_fuelLe T hle c.states with h | h
  · rw [h]; exact .inl rfl
  · rw [h]; exact .inr rfl

theorem step_fuelLe {af af' : Nat} (hle : af ≤ af') (c : Cfg) (ph : Phase) :
    (step T af failAt startLoc c ph).2 = .done (.panic .outOfFuel) ∨
      step T af' failAt startLoc c ph = step T af failAt startLoc c ph := by
  cases ph with
  | done r => exact .inr rfl
  | pull =>
    rw [step_pull_eq, step_pull_eq]
    rcases nextToken_fuelLe T hle c with h | h
    · rw [h]; exact .inl rfl
    · rw [h]; exact .inr rfl
  | act la idx =>
    simp only [step]
    cases c.states with
    | nil => exact .inr rfl
    | cons top rest =>
      simp only
      cases T.actionAt top idx with
      | none => exact .inr rfl
      | some a =>
        simp only
        cases asShift a with
        | some t => exact .inr rfl
        | none =>
          simp only
          cases asReduce a with
          | some p => exact .inr rfl
          | none => exact enterRecovery_fuelLe T hle c _ _
  | eof =>
    simp only [step]
    cases c.states with
    | nil => exact .inr rfl
    | cons top rest =>
      simp only
      cases T.eofActionAt top with
      | none => exact .inr rfl
      | some a =>
        simp only
        cases asReduce a with
        | some p => exact .inr rfl
        | none => exact enterRecovery_fuelLe T hle c _ _
  | recReduce la e fe => exact .inr rfl
  | recFind la e dropped sl fe =>
    simp only [step]
    rcases findState_fuelLe T hle (la.map (·.2)) sl c.states sl with h | h
    · rw [h]; exact .inl rfl
    · rw [h]
      cases findState T af (la.map (·.2)) sl c.states sl with
      | error e => exact .inr rfl
      | ok o =>
        cases o with
        | some top => exact .inr rfl
        | none =>
          cases la with
          | none => exact .inr rfl
          | some ti =>
            simp only
            rcases nextToken_fuelLe T hle c with h | h
            · left
              generalize nextToken T af c = x at h ⊢
              obtain ⟨c', nt⟩ := x
              cases h
              rfl
            · rw [h]; exact .inr rfl

theorem run_fuelLe {af af' : Nat} (hle : af ≤ af') (n : Nat) (c : Cfg) (ph : Phase) :
    (run T af failAt startLoc n c ph).2 = .done (.panic .outOfFuel) ∨
      run T af' failAt startLoc n c ph = run T af failAt startLoc n c ph := by
  induction n generalizing c ph with
  | zero => exact .inr (by rw [run_zero, run_zero])
  | succ n ih =>
    rw [run_succ, run_succ]
    rcases step_fuelLe T failAt startLoc hle c ph with h | h
    · rw [h, run_done]; exact .inl rfl
    · rw [h]; exact ih _ _

theorem accepts_ok_mono {af : Nat} {st : List Nat} {i : Option Term} {b : Bool}
    (h : accepts T af st i = .ok b) {af' : Nat} (hle : af ≤ af') : accepts T af' st i = .ok b := by
  rw [accepts_mono T (by rw [h]; simp) hle, h]

theorem run_done_mono {af n : Nat} {c0 : Cfg} {ph0 : Phase} {c : Cfg} {r : Outcome}
    (h : run T af failAt startLoc n c0 ph0 = (c, .done r)) (hr : r ≠ .panic .outOfFuel)
    {af' n' : Nat} (hle : af ≤ af') (hn : n ≤ n') :
    run T af' failAt startLoc n' c0 ph0 = (c, .done r) := by
  apply run_done_stable T af' failAt startLoc _ hn
  rcases run_fuelLe T failAt startLoc hle n c0 ph0 with h' | h'
  · rw [h] at h'
    cases h'
    exact (hr rfl).elim
  · rw [h', h]

theorem returns_unique_aux {input : List Item} {c c' : Cfg} {r r' : Outcome}
    (h : Returns T failAt startLoc input c r) (h' : Returns T failAt startLoc input c' r')
    (hr : r ≠ .panic .outOfFuel) (hr' : r' ≠ .panic .outOfFuel) : r = r' ∧ c = c' := by
  obtain ⟨n, af, h⟩ := h
  obtain ⟨n', af', h'⟩ := h'
  have h1 := run_done_mono T failAt startLoc h hr (Nat.le_max_left af af') (Nat.le_max_left n n')
  have h2 := run_done_mono T failAt startLoc h' hr' (Nat.le_max_right af af') (Nat.le_max_right n n')
  rw [h1] at h2
  injection h2 with hc hp
  injection hp with hp
  exact ⟨hp, hc⟩

end LalrpopModel.LR.Generic
