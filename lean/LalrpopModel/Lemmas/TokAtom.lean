import LalrpopModel.Lemmas.TokCode
import LalrpopModel.Lemmas.TokClass
/-! Every kind of token is read as itself: `next_unshifted` on the text of a token, in front of text the
    token tolerates, yields that token with the span of its text (`Reads`). -/
namespace LalrpopModel.Tok

/-- `next_unshifted` reads the text `txt`, followed by `f`, as the one token `t`, whose span is exactly `txt` -/
def Reads (cfg : Cfg) (txt : List Char) (t : Tok) (f : List Char) : Prop :=
  ∀ g p, nextUnshifted cfg (g + 1) ⟨p, txt ++ f⟩ = (.tok p t (p + utf8Len txt), ⟨p + utf8Len txt, f⟩)

inductive Punct
  | ampersand | bangEquals | bangTilde | colon | colonColon | comma | dotDot | equals | equalsEquals
  | hash | greaterThan | leftBrace | leftBracket | leftParen | lessThan | lookahead | lookbehind
  | minusGreaterThan | plus | question | rightBrace | rightBracket | rightParen | semi | star | tildeTilde | bang
  | arrowLookahead | arrowLookbehind
  deriving DecidableEq, Repr

def Punct.text : Punct → List Char
  | .ampersand => ['&'] | .bangEquals => ['!', '='] | .bangTilde => ['!', '~'] | .colon => [':']
  | .colonColon => [':', ':'] | .comma => [','] | .dotDot => ['.', '.'] | .equals => ['=']
  | .equalsEquals => ['=', '='] | .hash => ['#'] | .greaterThan => ['>'] | .leftBrace => ['{']
  | .leftBracket => ['['] | .leftParen => ['('] | .lessThan => ['<'] | .lookahead => ['@', 'L']
  | .lookbehind => ['@', 'R'] | .minusGreaterThan => ['-', '>'] | .plus => ['+'] | .question => ['?']
  | .rightBrace => ['}'] | .rightBracket => [']'] | .rightParen => [')'] | .semi => [';'] | .star => ['*']
  | .tildeTilde => ['~', '~'] | .bang => ['!'] | .arrowLookahead => ['=', '>', '@', 'L']
  | .arrowLookbehind => ['=', '>', '@', 'R']

def Punct.tok : Punct → Tok
  | .ampersand => .ampersand | .bangEquals => .bangEquals | .bangTilde => .bangTilde | .colon => .colon
  | .colonColon => .colonColon | .comma => .comma | .dotDot => .dotDot | .equals => .equals
  | .equalsEquals => .equalsEquals | .hash => .hash | .greaterThan => .greaterThan | .leftBrace => .leftBrace
  | .leftBracket => .leftBracket | .leftParen => .leftParen | .lessThan => .lessThan | .lookahead => .lookahead
  | .lookbehind => .lookbehind | .minusGreaterThan => .minusGreaterThan | .plus => .plus | .question => .question
  | .rightBrace => .rightBrace | .rightBracket => .rightBracket | .rightParen => .rightParen | .semi => .semi
  | .star => .star | .tildeTilde => .tildeTilde | .bang => .bang | .arrowLookahead => .eqGtLookahead
  | .arrowLookbehind => .eqGtLookbehind

/-- what may directly follow the token text (`none` = end of input): the two-character tokens `!=`, `!~`,
    `::`, `==`, `=>` and the attribute `#![` must not arise by juxtaposition -/
def Punct.followOK : Punct → Option Char → Bool
  | .bang, some c => c != '=' && c != '~'
  | .colon, some c => c != ':'
  | .equals, some c => c != '=' && c != '>'
  | .hash, some c => c != '!'
  | _, _ => true

theorem next_punct (cfg : Cfg) (k : Punct) (rest : List Char) (h : k.followOK rest.head? = true) :
    Reads cfg k.text k.tok rest := by
  intro g p
  cases k
  case hash =>
    -- `shebang_attribute` fails unless `!` follows, and `first!` then falls back to `Hash`
    simp only [Punct.text, Punct.tok, List.cons_append, List.nil_append]
    rw [next_hash]
    cases rest with
    | nil => rfl
    | cons c r =>
      have : c ≠ '!' := by simpa [Punct.followOK] using h
      simp [shebangAttribute, err, this]
  case arrowLookahead => exact (next_arrow cfg g p _).trans rfl
  case arrowLookbehind => exact (next_arrow cfg g p _).trans rfl
  -- the other tokens have a fixed text: the dispatch is computed
  all_goals
    simp only [Punct.text, Punct.tok, List.cons_append, List.nil_append, nextUnshifted, utf8Len_cons, utf8Len_nil,
      Nat.reduceAdd, Char.reduceBEq, Bool.false_eq_true, ↓reduceIte, utf8Size_ascii, Char.reduceVal, UInt32.reduceLE]
  -- after `!`, `:`, `=` the match on the next character remains, and `followOK` excludes its other arms
  case bang =>
    split
    · simp [Punct.followOK] at h
    · simp [Punct.followOK] at h
    · rfl
  case colon =>
    split
    · simp [Punct.followOK] at h
    · rfl
  case equals =>
    split
    · simp [Punct.followOK] at h
    · simp [Punct.followOK] at h
    · rfl

/-- the next character (if any) does not continue an identifier -/
def endsWord (following : List Char) : Prop := ∀ c, following.head? = some c → isIdContinue c = false

theorem word_scan (p : Nat) (cs following : List Char) (hcs : ∀ x ∈ cs, isIdContinue x = true)
    (hf : endsWord following) :
    word ⟨p, cs ++ following⟩ = (cs, ⟨p + utf8Len cs, following⟩) := by
  have := takeUntil_snd (fun c => !isIdContinue c) cs following p (by intro x hx; simp [hcs x hx])
    (by intro c hc; simp [hf c hc])
  simp [word, this]

/-- the token of an identifier-like word: keyword, else `MacroId` directly before `<`, else `Id` -/
def wordTok (wd : List Char) (nxt : Option Char) : Tok :=
  match keyword? wd with
  | some t => t
  | none => if nxt = some '<' then .macroId wd else .id wd

theorem identifierish_plain (k : Nat → St → Res St) (idx0 p : Nat) (pre cs following : List Char)
    (hcs : ∀ x ∈ cs, isIdContinue x = true) (hf : endsWord following)
    (h1 : pre ++ cs ≠ ['_']) (h2 : pre ++ cs ≠ ['r', '#', '_']) (h3 : pre ++ cs ≠ ['u', 's', 'e']) :
    identifierish k idx0 pre ⟨p, cs ++ following⟩ =
      .ok ((idx0, wordTok (pre ++ cs) following.head?, p + utf8Len cs), ⟨p + utf8Len cs, following⟩) := by
  simp only [identifierish, word_scan p cs following hcs hf]
  simp only [beq_iff_eq, h1, h2, h3, if_false, wordTok]
  cases hk : keyword? (pre ++ cs) with
  | some t => simp
  | none =>
    cases following with
    | nil => simp
    | cons c r =>
      by_cases hc : c = '<'
      · subst hc; simp
      · simp [hc]

/-- a word: an identifier start (XID_Start or `_`) followed by identifier characters. That every identifier
    start is also XID_Continue is a fact about Unicode, kept here as a hypothesis. -/
def isWord (w : List Char) : Prop :=
  match w with
  | [] => False
  | c :: cs => isIdStart c = true ∧ isIdContinue c = true ∧ ∀ x ∈ cs, isIdContinue x = true

theorem isWord_cons {w : List Char} (hw : isWord w) : ∃ c cs, w = c :: cs := by
  cases w with
  | nil => exact hw.elim
  | cons c cs => exact ⟨c, cs, rfl⟩

theorem isWord_continue (c : Char) (cs : List Char) (hw : isWord (c :: cs)) :
    ∀ x ∈ c :: cs, isIdContinue x = true :=
  List.forall_mem_cons.2 hw.2

theorem word_ne_rhash (c : Char) (cs : List Char) (hcs : ∀ x ∈ cs, isIdContinue x = true) :
    c :: cs ≠ ['r', '#', '_'] := by
  intro h
  injection h with _ h
  have := hcs '#' (by rw [h]; simp)
  simp [special_not_idContinue '#' (by decide)] at this

theorem next_word (cfg : Cfg) (w following : List Char) (hw : isWord w) (hf : endsWord following)
    (h1 : w ≠ ['_']) (h3 : w ≠ ['u', 's', 'e'])
    (hr : w = ['r'] → following.head? ≠ some '#' ∧ following.head? ≠ some '"') :
    Reads cfg w (wordTok w following.head?) following := by
  intro g p
  obtain ⟨c, cs, rfl⟩ := isWord_cons hw
  have hcs := hw.2.2
  have h2 := word_ne_rhash c cs hcs
  simp only [List.cons_append]
  by_cases hcr : c = 'r'
  · subst hcr
    -- what follows the `r` is an identifier character or `following`, so neither `#` nor `"`
    have hnx : ∀ d ∈ specialChars, (d = '#' ∨ d = '"') → (cs ++ following).head? ≠ some d := by
      intro d hd hd'
      cases cs with
      | nil => rcases hd' with rfl | rfl
               · exact (hr rfl).1
               · exact (hr rfl).2
      | cons e es =>
        intro he
        have := hcs e (by simp)
        simp only [List.cons_append, List.head?_cons, Option.some.injEq] at he
        simp [he, special_not_idContinue d hd] at this
    rw [next_r_word cfg g p _ (hnx '#' (by decide) (.inl rfl)) (hnx '"' (by decide) (.inr rfl)),
      identifierish_plain _ p (p + 1) ['r'] cs following hcs hf (by simp) (by simpa using h2) (by simp)]
    simp [ofRes, Nat.add_assoc]
  · have hid := identifierish_plain (fun i s => codeTop cfg i s) p p [] (c :: cs) following
      (isWord_continue c cs hw) hf (by simpa using h1) (by simpa using h2) (by simpa using h3)
    simp only [List.cons_append, List.nil_append] at hid
    rw [next_idStart cfg g p c _ hw.1 hcr, hid]
    rfl

theorem next_underscore (cfg : Cfg) (following : List Char) (hf : endsWord following) :
    Reads cfg ['_'] .underscore following := by
  intro g p
  have hw := word_scan p ['_'] following (by intro x hx; simp at hx; subst hx; decide) hf
  simp only [List.cons_append, List.nil_append] at hw ⊢
  rw [next_idStart cfg g p '_' _ (by decide) (by decide)]
  simp [identifierish, hw, ofRes]

theorem next_str (cfg : Cfg) (ps : List SPiece) (following : List Char) (hps : ∀ q ∈ ps, q.ok '"' = true) :
    Reads cfg ('"' :: (renderPieces ps ++ ['"'])) (.stringLiteral (renderPieces ps)) following := by
  intro g p
  simp only [List.cons_append, List.append_assoc, List.nil_append]
  rw [next_quote, stringLiteral_scan p ps hps]
  simp +arith [ofRes, utf8Len_append]

theorem next_escape (cfg : Cfg) (body following : List Char) (hb : ∀ x ∈ body, x ≠ '`') :
    Reads cfg ('`' :: (body ++ ['`'])) (.escape body) following := by
  intro g p
  have ht := takeUntil_stop (· == '`') body '`' following (p + 1) (by intro x hx; simpa using hb x hx) (by decide)
  simp only [List.cons_append, List.append_assoc, List.nil_append]
  rw [next_backquote]
  simp +arith [escape, ht, ofRes, St.bump, utf8Len_append]

theorem next_lifetime (cfg : Cfg) (w following : List Char) (hw : isWord w) (hf : endsWord following)
    (hq : following.head? ≠ some '\'') :
    Reads cfg ('\'' :: w) (.lifetime ('\'' :: w)) following := by
  intro g p
  obtain ⟨c, cs, rfl⟩ := isWord_cons hw
  have hws := word_scan (p + 1) (c :: cs) following (isWord_continue c cs hw) hf
  simp only [List.cons_append] at hws ⊢
  rw [next_tick]
  simp only [lifetimeish, hw.1, if_true, hws]
  split
  · simp_all
  · simp +arith [ofRes]

theorem next_charId (cfg : Cfg) (w following : List Char) (hw : isWord w) :
    Reads cfg ('\'' :: (w ++ ['\''])) (.charLiteral w) following := by
  intro g p
  obtain ⟨c, cs, rfl⟩ := isWord_cons hw
  have hws := word_scan (p + 1) (c :: cs) ('\'' :: following) (isWord_continue c cs hw)
    (by intro x hx; simp at hx; subst hx; exact special_not_idContinue _ (by decide))
  simp only [List.cons_append, List.append_assoc, List.nil_append] at hws ⊢
  rw [next_tick]
  simp only [lifetimeish, hw.1, if_true, hws]
  simp +arith [ofRes, utf8Len_append]

theorem next_charPieces (cfg : Cfg) (ps : List SPiece) (following : List Char)
    (hps : ∀ q ∈ ps, q.ok '\'' = true)
    (hfirst : ∀ c, (renderPieces ps).head? = some c → isIdStart c = false) :
    Reads cfg ('\'' :: (renderPieces ps ++ ['\''])) (.charLiteral (renderPieces ps)) following := by
  intro g p
  have hsc := stringOrCharLiteral_scan p '\'' (by decide) (by decide) .charLiteral ps hps (p + 1) following
  -- the first character after the quote is the first of the body, or the closing quote
  have hd : ∀ d, (renderPieces ps ++ '\'' :: following).head? = some d → isIdStart d = false := by
    intro d
    cases hr : renderPieces ps with
    | nil => rintro ⟨⟩; exact special_not_idStart _ (by decide)
    | cons e es => rintro ⟨⟩; exact hfirst _ (by rw [hr]; rfl)
  simp only [List.cons_append, List.append_assoc, List.nil_append]
  rw [next_tick]
  rcases hl : renderPieces ps ++ '\'' :: following with _ | ⟨d, tl⟩
  · simp at hl
  · rw [hl] at hsc
    simp +arith [lifetimeish, hd d (by rw [hl]; rfl), hsc, ofRes, utf8Len_append]

theorem next_regex (cfg : Cfg) (n : Nat) (body following : List Char) (hok : rawBodyOK n body = true) :
    Reads cfg ('r' :: (List.replicate n '#' ++ '"' :: (body ++ '"' :: List.replicate n '#'))) (.regexLiteral body)
      following := by
  intro g p
  have hs := regexLiteral_scan (fun i s => codeTop cfg i s) p ['r'] (p + 1) n n (by omega) body hok following
  obtain ⟨d, tl, hd, hdq⟩ := hashes_quote_head n (body ++ '"' :: (List.replicate n '#' ++ following))
  simp only [List.cons_append, List.append_assoc] at hs ⊢
  rw [hd] at hs ⊢
  rw [next_r_raw cfg g p _ _ hdq, hs]
  simp +arith [ofRes, utf8Len_append, utf8Len_replicate_hash]

theorem next_arrowCode (cfg : Cfg) (as : List RA) (t : Char) (rest : List Char)
    (hs : Snippet cfg as t) (h1 : firstChar as t ≠ '@') (h2 : firstChar as t ≠ '?') :
    Reads cfg ('=' :: '>' :: renderAll as) (.eqGtCode (renderAll as)) (t :: rest) := by
  intro g p
  have hc := codeTop_scan cfg p (p + 1 + 1) as t rest hs
  obtain ⟨tl, htl⟩ := renderAll_first as t rest
  simp only [List.cons_append]
  rw [next_arrow, rightArrow]
  simp only [htl]
  simp only [beq_iff_eq, h1, h2, if_false]
  rw [← htl, hc]
  simp +arith [ofRes]

theorem next_arrowQCode (cfg : Cfg) (as : List RA) (t : Char) (rest : List Char) (hs : Snippet cfg as t) :
    Reads cfg ('=' :: '>' :: '?' :: renderAll as) (.eqGtQuestionCode (renderAll as)) (t :: rest) := by
  intro g p
  have hc := codeTop_scan cfg p (p + 3) as t rest hs
  simp only [List.cons_append]
  rw [next_arrow, rightArrow]
  simp +arith [hc, ofRes]

theorem next_use (cfg : Cfg) (as : List RA) (t : Char) (rest : List Char)
    (hs : Snippet cfg as t) (h1 : isIdContinue (firstChar as t) = false) :
    Reads cfg ('u' :: 's' :: 'e' :: renderAll as) (.use_ (renderAll as)) (t :: rest) := by
  intro g p
  have hc := codeTop_scan cfg p (p + 3) as t rest hs
  obtain ⟨tl, htl⟩ := renderAll_first as t rest
  have hw := word_scan p ['u', 's', 'e'] (renderAll as ++ t :: rest)
    (by intro x hx; simp at hx; rcases hx with rfl | rfl | rfl <;> decide)
    (by intro c hc'; rw [htl] at hc'; simp at hc'; subst hc'; exact h1)
  simp only [List.cons_append, List.nil_append] at hw ⊢
  rw [next_idStart cfg g p 'u' _ (by decide) (by decide)]
  simp +arith [identifierish, hw, ofRes, hc]

/-- the items inside `#![ … ]` as `shebang_attribute` sees them -/
inductive SA
  | ch (c : Char)
  | str (ps : List SPiece)
  | open_
  | close
  deriving Repr

def SA.render : SA → List Char
  | .ch c => [c]
  | .str ps => '"' :: (renderPieces ps ++ ['"'])
  | .open_ => ['[']
  | .close => [']']

def renderSA (items : List SA) : List Char := items.flatMap SA.render

/-- well-formed attribute body at bracket depth `k` (1 = directly inside `#![`): ordinary characters
    are not brackets, quotes or newlines; string literals are complete; inner brackets balance -/
def WFS : Nat → List SA → Prop
  | k, [] => k = 1
  | k, .ch c :: r => c ≠ '[' ∧ c ≠ ']' ∧ c ≠ '"' ∧ c ≠ '\n' ∧ WFS k r
  | k, .str ps :: r => (∀ q ∈ ps, q.ok '"' = true) ∧ WFS k r
  | k, .open_ :: r => WFS (k + 1) r
  | k, .close :: r => 2 ≤ k ∧ WFS (k - 1) r

theorem shebangLoop_items (cfg : Cfg) (idx0 : Nat) (st0 : St) : ∀ (items : List SA) (k g p : Nat) (rest : List Char),
    WFS k items →
    shebangLoop cfg idx0 st0 (g + items.length) k ⟨p, renderSA items ++ rest⟩ =
      shebangLoop cfg idx0 st0 g 1 ⟨p + utf8Len (renderSA items), rest⟩ := by
  intro items
  induction items with
  | nil => intro k g p rest h; simp only [WFS] at h; subst h; simp [renderSA]
  | cons a as ih =>
    intro k g p rest h
    have hlen : g + (a :: as).length = (g + as.length) + 1 := by simp; omega
    rw [hlen]
    cases a with
    | ch c =>
      obtain ⟨h1, h2, h3, h4, hr⟩ := h
      have := ih k g (p + c.utf8Size) rest hr
      simp only [renderSA, List.flatMap_cons, SA.render, List.cons_append, List.nil_append] at this ⊢
      simp only [shebangLoop, beq_iff_eq, h1, h2, h3, h4, ↓reduceIte, this, utf8Len_cons, Nat.add_assoc]
    | str ps =>
      obtain ⟨hps, hr⟩ := h
      have hs := stringLiteral_scan p ps hps (p + 1) (renderSA as ++ rest)
      have := ih k g (p + 1 + utf8Len (renderPieces ps) + 1) rest hr
      simp only [renderSA, List.flatMap_cons, SA.render, List.cons_append, List.append_assoc, List.nil_append] at this hs ⊢
      rw [shebangLoop]
      simp only [hs, Char.reduceBEq, Bool.false_eq_true, ↓reduceIte, utf8Size_ascii, Char.reduceVal, UInt32.reduceLE]
      rw [this]
      simp +arith [utf8Len_append]
    | open_ =>
      have := ih (k + 1) g (p + 1) rest h
      simp only [renderSA, List.flatMap_cons, SA.render, List.cons_append, List.nil_append] at this ⊢
      simp only [shebangLoop, Char.reduceBEq, ↓reduceIte, utf8Size_ascii, Char.reduceVal, UInt32.reduceLE, this,
        utf8Len_cons, Nat.add_assoc]
    | close =>
      obtain ⟨hk, hr⟩ := h
      have := ih (k - 1) g (p + 1) rest hr
      have hk1 : ¬ (k = 1) := by omega
      simp only [renderSA, List.flatMap_cons, SA.render, List.cons_append, List.nil_append] at this ⊢
      simp only [shebangLoop, Char.reduceBEq, Bool.false_eq_true, ↓reduceIte, utf8Size_ascii, Char.reduceVal,
        UInt32.reduceLE, beq_iff_eq, hk1, this, utf8Len_cons, Nat.add_assoc]

theorem renderSA_length (items : List SA) : items.length ≤ (renderSA items).length := by
  have := sum_le_length_flatMap SA.render (fun _ => 1) (fun a => by cases a <;> simp [SA.render]) items
  rwa [List.map_const', List.sum_replicate_nat, Nat.mul_one] at this

/-- `#![ items ]` is one `ShebangAttribute` token whose text is the whole attribute; with
    `shebangDoubleBump = false` (no second `bump()` after the closing `]`) the following text is untouched -/
theorem next_shebang (cfg : Cfg) (hcfg : cfg.shebangDoubleBump = false) (items : List SA)
    (following : List Char) (h : WFS 1 items) :
    Reads cfg ('#' :: '!' :: '[' :: (renderSA items ++ [']']))
      (.shebangAttribute ('#' :: '!' :: '[' :: (renderSA items ++ [']']))) following := by
  intro g p
  have hb : ∀ q, between ⟨p, '#' :: '!' :: '[' :: (renderSA items ++ ']' :: following)⟩ ⟨q, following⟩ =
      '#' :: '!' :: '[' :: (renderSA items ++ [']']) :=
    fun q => between_prefix _ q _ _ _ (by simp)
  simp only [List.cons_append, List.append_assoc, List.nil_append]
  rw [next_hash]
  simp only [shebangAttribute, Char.reduceBEq, ↓reduceIte, utf8Size_ascii, Char.reduceVal,
    UInt32.reduceLE]
  rw [fuel_split _ _ _ (renderSA_length items), shebangLoop_items cfg p _ items 1 _ _ _ h, shebangLoop]
  simp +arith [hcfg, hb, utf8Len_append]

end LalrpopModel.Tok
