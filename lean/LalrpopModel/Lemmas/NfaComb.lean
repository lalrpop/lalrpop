import LalrpopModel.Lemmas.NfaBasic
/-!
`Impl f rej L`: the builder `f` implements the language `L`. It is stated for every later NFA `N` that agrees with
the result on the states this call created, because the enclosing builders go on adding states and edges.
-/
namespace LalrpopModel.Nfa
open LalrpopModel.Re

/-- the final NFA `N` has, for every state of the range, exactly the edges `n'` has -/
def AgreeOn (n' N : Nfa) (lo hi : Nat) : Prop := ∀ q, lo ≤ q → q < hi → N[q]? = n'[q]?

/-- no accepting state is reachable from `rej` -/
def RejDead (N : Nfa) (rej : Nat) : Prop := ∀ k w, ¬ ReachN N k rej w

/-- in `N`, state `s` accepts exactly `L` followed by whatever `acc` accepts (with step counts,
so that loops through ε-matching sub-expressions can be unfolded by induction) -/
structure Spec (L : List Nat → Prop) (N : Nfa) (s acc : Nat) : Prop where
  complete : ∀ w1 w2, L w1 → Acc N acc w2 → Acc N s (w1 ++ w2)
  sound : ∀ k w, ReachN N k s w →
    ∃ w1 w2 k', k' ≤ k ∧ w = w1 ++ w2 ∧ L w1 ∧ ReachN N k' acc w2

/-- the builder `f` implements the language `L` -/
def Impl (f : Nat → Nfa → Build) (rej : Nat) (L : List Nat → Prop) : Prop :=
  ∀ acc n s n', f acc n = .ok (s, n') →
    Frame n n' ∧ ∀ N, AgreeOn n' N n.length n'.length → RejDead N rej → Spec L N s acc

/-- the same for a list of entry states `ts` -/
structure AltsSpec (L : List Nat → Prop) (N : Nfa) (ts : List Nat) (acc : Nat) : Prop where
  complete : ∀ w1 w2, L w1 → Acc N acc w2 → ∃ t, t ∈ ts ∧ Acc N t (w1 ++ w2)
  sound : ∀ t, t ∈ ts → ∀ k w, ReachN N k t w →
    ∃ w1 w2 k', k' ≤ k ∧ w = w1 ++ w2 ∧ L w1 ∧ ReachN N k' acc w2

def AltsImpl (g : Nat → Nfa → Except Err (List Nat × Nfa)) (rej : Nat) (L : List Nat → Prop) : Prop :=
  ∀ acc n ts n', g acc n = .ok (ts, n') →
    Frame n n' ∧ ∀ N, AgreeOn n' N n.length n'.length → RejDead N rej → AltsSpec L N ts acc

theorem Spec.congr {L L' : List Nat → Prop} {N : Nfa} {s acc : Nat} (h : ∀ w, L w ↔ L' w)
    (hs : Spec L N s acc) : Spec L' N s acc :=
  ⟨fun w1 w2 h1 h2 => hs.complete w1 w2 ((h w1).mpr h1) h2,
   fun k w hr => by
     obtain ⟨w1, w2, k', a, b, c, d⟩ := hs.sound k w hr
     exact ⟨w1, w2, k', a, b, (h w1).mp c, d⟩⟩

theorem Impl.congr {f : Nat → Nfa → Build} {rej : Nat} {L L' : List Nat → Prop}
    (h : ∀ w, L w ↔ L' w) (hf : Impl f rej L) : Impl f rej L' := by
  intro acc n s n' he
  obtain ⟨hfr, hsp⟩ := hf acc n s n' he
  exact ⟨hfr, fun N ha hr => (hsp N ha hr).congr h⟩

theorem AgreeOn.mono {n' N : Nfa} {lo hi lo' hi' : Nat} (h : AgreeOn n' N lo hi) (h1 : lo ≤ lo')
    (h2 : hi' ≤ hi) : AgreeOn n' N lo' hi' :=
  fun q a b => h q (Nat.le_trans h1 a) (Nat.lt_of_lt_of_le b h2)

theorem AgreeOn.back {a b N : Nfa} {lo : Nat} (hab : Frame a b) (h : AgreeOn b N lo b.length) :
    AgreeOn a N lo a.length := by
  intro q h1 h2
  rw [h q h1 (Nat.lt_of_lt_of_le h2 hab.len), hab.old q h2]


def Lcat (L1 L2 : List Nat → Prop) : List Nat → Prop := fun w => ∃ u v, w = u ++ v ∧ L1 u ∧ L2 v
def Lopt (L : List Nat → Prop) : List Nat → Prop := fun w => w = [] ∨ L w
def Lstar (L : List Nat → Prop) : List Nat → Prop := fun w => ∃ j, LPow L j w
def Lplus (L : List Nat → Prop) : List Nat → Prop := fun w => ∃ j, LPow L (j + 1) w

theorem Spec.nil (N : Nfa) (acc : Nat) : Spec (fun w => w = []) N acc acc :=
  ⟨fun w1 w2 h1 h2 => by subst h1; exact h2, fun k w hr => ⟨[], w, k, Nat.le_refl _, rfl, rfl, hr⟩⟩

theorem Spec.seq {L1 L2 : List Nat → Prop} {N : Nfa} {s m acc : Nat} (h1 : Spec L1 N s m)
    (h2 : Spec L2 N m acc) : Spec (Lcat L1 L2) N s acc := by
  constructor
  · rintro w1 w2 ⟨u, v, rfl, hu, hv⟩ hacc
    rw [List.append_assoc]
    exact h1.complete u (v ++ w2) hu (h2.complete v w2 hv hacc)
  · intro k w hr
    obtain ⟨u, r, k1, hk1, rfl, hu, hr1⟩ := h1.sound k w hr
    obtain ⟨v, w2, k2, hk2, rfl, hv, hr2⟩ := h2.sound k1 r hr1
    exact ⟨u ++ v, w2, k2, Nat.le_trans hk2 hk1, (List.append_assoc u v w2).symm, ⟨u, v, rfl, hu, hv⟩, hr2⟩

theorem AltsSpec.nil (N : Nfa) (acc : Nat) : AltsSpec (fun _ => False) N [] acc :=
  ⟨fun _ _ h => h.elim, fun _ ht => nomatch ht⟩

theorem AltsSpec.cons {L1 L2 : List Nat → Prop} {N : Nfa} {t acc : Nat} {ts : List Nat}
    (h1 : Spec L1 N t acc) (h2 : AltsSpec L2 N ts acc) :
    AltsSpec (fun w => L1 w ∨ L2 w) N (t :: ts) acc := by
  constructor
  · intro w1 w2 hw hacc
    rcases hw with hw | hw
    · exact ⟨t, List.mem_cons_self, h1.complete w1 w2 hw hacc⟩
    · obtain ⟨t', ht', h'⟩ := h2.complete w1 w2 hw hacc
      exact ⟨t', List.mem_cons_of_mem _ ht', h'⟩
  · intro t' ht' k w hr
    rcases List.mem_cons.mp ht' with rfl | ht'
    · obtain ⟨w1, w2, k2, a, b, c, d⟩ := h1.sound k w hr
      exact ⟨w1, w2, k2, a, b, .inl c, d⟩
    · obtain ⟨w1, w2, k2, a, b, c, d⟩ := h2.sound t' ht' k w hr
      exact ⟨w1, w2, k2, a, b, .inr c, d⟩

theorem Spec.of_alts {L : List Nat → Prop} {N : Nfa} {s0 acc : Nat} {ts : List Nat}
    (h0 : N[s0]? = some { kind := .neither, noop := ts }) (h : AltsSpec L N ts acc) : Spec L N s0 acc := by
  constructor
  · intro w1 w2 hw hacc
    obtain ⟨t, ht, ha⟩ := h.complete w1 w2 hw hacc
    exact Acc.noop h0 ht ha
  · intro k w hr
    obtain ⟨k', u, rfl, hu, hr'⟩ := reach_noop_state h0 hr
    obtain ⟨w1, w2, k2, hk2, e, hw1, hr2⟩ := h.sound u hu k' w hr'
    exact ⟨w1, w2, k2, Nat.le_succ_of_le hk2, e, hw1, hr2⟩

/-- a loop state `s0`: Noop edges to the exit `acc` and to the entry `s1` of a body that comes
back to `s0`.  Soundness is by induction on the number of steps: a pass through the body takes at
least the Noop step into it, also when the body matches the empty word. -/
theorem Spec.star {L : List Nat → Prop} {N : Nfa} {s0 s1 acc : Nat}
    (h0 : N[s0]? = some { kind := .neither, noop := [acc, s1] }) (h : Spec L N s1 s0) :
    Spec (Lstar L) N s0 acc := by
  constructor
  · rintro w1 w2 ⟨j, hj⟩ hacc
    induction j generalizing w1 with
    | zero =>
      obtain rfl : w1 = [] := hj
      exact Acc.noop h0 List.mem_cons_self hacc
    | succ j ih =>
      obtain ⟨a, b, rfl, ha, hb⟩ := hj
      rw [List.append_assoc]
      exact Acc.noop h0 (List.mem_cons_of_mem _ List.mem_cons_self) (h.complete a (b ++ w2) ha (ih b hb))
  · intro k
    induction k using Nat.strongRecOn with
    | _ k ih =>
      intro w hr
      obtain ⟨k', u, rfl, hu, hr'⟩ := reach_noop_state h0 hr
      simp only [List.mem_cons, List.mem_nil_iff, or_false] at hu
      rcases hu with rfl | rfl
      · exact ⟨[], w, k', Nat.le_succ _, rfl, ⟨0, rfl⟩, hr'⟩
      · obtain ⟨a, r, k2, hk2, rfl, ha, hr2⟩ := h.sound k' w hr'
        obtain ⟨b, w2, k3, hk3, rfl, ⟨j, hb⟩, hr3⟩ := ih k2 (Nat.lt_succ_of_le hk2) r hr2
        exact ⟨a ++ b, w2, k3, Nat.le_trans hk3 (Nat.le_succ_of_le hk2), (List.append_assoc a b w2).symm,
          ⟨j + 1, a, b, rfl, ha, hb⟩, hr3⟩

def seqB (g f : Nat → Nfa → Build) : Nat → Nfa → Build := fun acc n => do
  let (s, n) ← g acc n
  f s n

theorem seqB_impl {g f : Nat → Nfa → Build} {rej : Nat} {Lg Lf : List Nat → Prop}
    (hg : Impl g rej Lg) (hf : Impl f rej Lf) : Impl (seqB g f) rej (Lcat Lf Lg) := by
  intro acc n s n' he
  obtain ⟨⟨s1, n1⟩, h1, he⟩ := bind_eq_ok he
  obtain ⟨fr1, sp1⟩ := hg acc n s1 n1 h1
  obtain ⟨fr2, sp2⟩ := hf s1 n1 s n' he
  exact ⟨fr1.trans fr2, fun N hag hrej =>
    (sp2 N (hag.mono fr1.len (Nat.le_refl _)) hrej).seq (sp1 N (AgreeOn.back fr2 hag) hrej)⟩

theorem pure_impl (rej : Nat) : Impl (fun acc n => (pure (acc, n) : Build)) rej (fun w => w = []) := by
  intro acc n s n' he
  cases he
  exact ⟨Frame.refl _, fun N _ _ => Spec.nil N acc⟩

theorem LPow_one {L : List Nat → Prop} {w : List Nat} : LPow L 1 w ↔ L w := by
  constructor
  · rintro ⟨u, v, rfl, hu, rfl⟩
    rwa [List.append_nil]
  · intro h
    exact ⟨w, [], (List.append_nil w).symm, h, rfl⟩

theorem LPow_congr {L L' : List Nat → Prop} (h : ∀ w, L w ↔ L' w) : ∀ (k : Nat) (w : List Nat),
    LPow L k w ↔ LPow L' k w
  | 0, _ => Iff.rfl
  | k + 1, _ =>
    exists_congr fun u => exists_congr fun v => and_congr_right fun _ => and_congr (h u) (LPow_congr h k v)

theorem LPow_add {L : List Nat → Prop} {i j : Nat} {u v : List Nat} (hu : LPow L i u) (hv : LPow L j v) :
    LPow L (i + j) (u ++ v) := by
  induction i generalizing u with
  | zero => simp only [LPow] at hu; subst hu; simpa using hv
  | succ i ih =>
    obtain ⟨a, b, rfl, ha, hb⟩ := hu
    rw [Nat.succ_add, List.append_assoc]
    exact ⟨a, b ++ v, rfl, ha, ih hb⟩

theorem LPow_split {L : List Nat → Prop} {i j : Nat} {w : List Nat} (h : LPow L (i + j) w) :
    ∃ u v, w = u ++ v ∧ LPow L i u ∧ LPow L j v := by
  induction i generalizing w with
  | zero => exact ⟨[], w, rfl, rfl, by simpa using h⟩
  | succ i ih =>
    rw [Nat.succ_add] at h
    obtain ⟨a, b, rfl, ha, hb⟩ := h
    obtain ⟨u, v, rfl, hu, hv⟩ := ih hb
    exact ⟨a ++ u, v, by simp, ⟨a, u, rfl, ha, hu⟩, hv⟩

/-- `repeatWith f (k + 1)` runs `f` for the last copy first, so its language comes out as
`L^k · L` -/
theorem repeatWith_impl {f : Nat → Nfa → Build} {rej : Nat} {L : List Nat → Prop}
    (hf : Impl f rej L) (k : Nat) : Impl (repeatWith f k) rej (LPow L k) := by
  induction k with
  | zero => exact pure_impl rej
  | succ k ih =>
    refine (seqB_impl hf ih).congr fun w => ⟨?_, fun hw => ?_⟩
    · rintro ⟨u, v, rfl, hu, hv⟩
      exact LPow_add hu (LPow_one.mpr hv)
    · obtain ⟨u, v, rfl, hu, hv⟩ := LPow_split (i := k) (j := 1) hw
      exact ⟨u, v, rfl, hu, LPow_one.mp hv⟩


theorem foldl_pushNoop (ts : List Nat) (n : Nfa) (s0 : Nat) :
    ts.foldl (fun n t => pushNoop n s0 t) n = n.modify s0 fun st => { st with noop := st.noop ++ ts } := by
  induction ts generalizing n with
  | nil =>
    rw [List.foldl_nil]
    exact (List.modify_id s0 n).symm.trans (congrArg _ (funext fun st => by rw [List.append_nil]; rfl))
  | cons t ts ih =>
    rw [List.foldl_cons, ih, pushNoop, List.modify_modify_eq]
    exact congrArg _ (funext fun st => by simp only [Function.comp, List.append_assoc, List.singleton_append])

/-- the state `a.length` is created by `newState a`; further states are added (`b`); then the Noop
edges `ts` are pushed onto it (`c`).  In a final NFA that agrees with the result from `n.length` on,
the state has exactly these edges, and what was built before and after it is still agreed with. -/
theorem fresh_noop {n a b : Nfa} (hna : Frame n a) (hab : Frame (newState a).2 b) (ts : List Nat) (c : Nfa)
    (hc : c = ts.foldl (fun m t => pushNoop m a.length t) b) :
    Frame n c ∧ ∀ N, AgreeOn c N n.length c.length →
      N[a.length]? = some { kind := .neither, noop := ts } ∧
      AgreeOn b N (newState a).2.length b.length ∧ AgreeOn a N n.length a.length := by
  rw [foldl_pushNoop] at hc
  subst hc
  refine ⟨((hna.trans (Frame.newState a)).trans hab).modify _ hna.len _ fun _ => rfl, fun N hag => ?_⟩
  have hlen : a.length + 1 ≤ b.length := by
    have := hab.len
    rwa [length_newState] at this
  have hna' := hna.len
  rw [List.length_modify] at hag
  refine ⟨?_, fun q h1 h2 => ?_, fun q h1 h2 => ?_⟩
  · rw [hag a.length hna' hlen, getElem?_modify', if_pos rfl,
      hab.old a.length (by rw [length_newState]; exact Nat.lt_succ_self _), getElem?_newState_new]
    rfl
  · rw [length_newState] at h1
    rw [hag q (by omega) h2, getElem?_modify', if_neg (by omega)]
  · rw [hag q h1 (by omega), getElem?_modify', if_neg (by omega),
      hab.old q (by rw [length_newState]; omega), getElem?_newState_old a q h2]

theorem optionalWith_impl {f : Nat → Nfa → Build} {rej : Nat} {L : List Nat → Prop}
    (hf : Impl f rej L) : Impl (optionalWith f) rej (Lopt L) := by
  intro acc n s n' he
  obtain ⟨⟨s1, n1⟩, h1, he⟩ := bind_eq_ok he
  cases he
  obtain ⟨fr1, sp1⟩ := hf acc n s1 n1 h1
  obtain ⟨fr, hN⟩ := fresh_noop fr1 (Frame.refl _) [acc, s1] _ rfl
  refine ⟨fr, fun N hag hrej => ?_⟩
  obtain ⟨h0, _, ag1⟩ := hN N hag
  exact (Spec.of_alts h0 (.cons (Spec.nil N acc) (.cons (sp1 N ag1 hrej) (.nil N acc)))).congr
    fun w => or_congr_right (iff_of_eq (or_false _))

theorem starWith_impl {f : Nat → Nfa → Build} {rej : Nat} {L : List Nat → Prop}
    (hf : Impl f rej L) : Impl (starWith f) rej (Lstar L) := by
  intro acc n s n' he
  obtain ⟨⟨s1, n2⟩, h1, he⟩ := bind_eq_ok he
  cases he
  obtain ⟨fr1, sp1⟩ := hf _ _ s1 n2 h1
  obtain ⟨fr, hN⟩ := fresh_noop (Frame.refl n) fr1 [acc, s1] _ rfl
  refine ⟨fr, fun N hag hrej => ?_⟩
  obtain ⟨h0, ag1, _⟩ := hN N hag
  exact Spec.star h0 (sp1 N ag1 hrej)

/-- `plus_expr`: the body runs from `s0` into the loop state `s1`, which exits to `acc` or goes
back to `s0`: the body followed by a star of it -/
theorem plusWith_impl {f : Nat → Nfa → Build} {rej : Nat} {L : List Nat → Prop}
    (hf : Impl f rej L) : Impl (plusWith f) rej (Lplus L) := by
  intro acc n s n' he
  obtain ⟨⟨s0, n2⟩, h1, he⟩ := bind_eq_ok he
  obtain ⟨fr1, sp1⟩ := hf _ _ s0 n2 h1
  cases he
  obtain ⟨fr, hN⟩ := fresh_noop (Frame.refl n) fr1 [acc, s] _ rfl
  refine ⟨fr, fun N hag hrej => ?_⟩
  obtain ⟨h1', ag1, _⟩ := hN N hag
  have S1 : Spec L N s n.length := sp1 N ag1 hrej
  exact (S1.seq (Spec.star h1' S1)).congr fun w =>
    ⟨fun ⟨u, v, e, hu, j, hv⟩ => ⟨j, u, v, e, hu, hv⟩, fun ⟨j, u, v, e, hu, hv⟩ => ⟨u, v, e, hu, j, hv⟩⟩

/-- the `Alternation` arm, given the builder of the alternatives' entry states -/
theorem alt_impl {g : Nat → Nfa → Except Err (List Nat × Nfa)} {rej : Nat} {L : List Nat → Prop}
    (hg : AltsImpl g rej L) :
    Impl (fun acc n => do
      let (s0, n) := newState n
      let (targets, n) ← g acc n
      pure (s0, targets.foldl (fun n t => pushNoop n s0 t) n)) rej L := by
  intro acc n s n' he
  obtain ⟨⟨ts, n2⟩, h1, he⟩ := bind_eq_ok he
  cases he
  obtain ⟨fr1, sp1⟩ := hg _ _ ts n2 h1
  obtain ⟨fr, hN⟩ := fresh_noop (Frame.refl n) fr1 ts _ rfl
  refine ⟨fr, fun N hag hrej => ?_⟩
  obtain ⟨h0, ag1, _⟩ := hN N hag
  exact Spec.of_alts h0 (sp1 N ag1 hrej)

theorem alts_nil_impl (rej : Nat) :
    AltsImpl (fun _ n => (pure ([], n) : Except Err (List Nat × Nfa))) rej (fun _ => False) := by
  intro acc n ts n' he
  cases he
  exact ⟨Frame.refl _, fun N _ _ => .nil N acc⟩

theorem alts_cons_impl {f : Nat → Nfa → Build} {g : Nat → Nfa → Except Err (List Nat × Nfa)} {rej : Nat}
    {L1 L2 : List Nat → Prop} (hf : Impl f rej L1) (hg : AltsImpl g rej L2) :
    AltsImpl (fun acc n => do
      let (t, n) ← f acc n
      let (ts, n) ← g acc n
      pure (t :: ts, n)) rej (fun w => L1 w ∨ L2 w) := by
  intro acc n ts n' he
  obtain ⟨⟨t, n1⟩, h1, he⟩ := bind_eq_ok he
  obtain ⟨⟨ts', n2⟩, h2, he⟩ := bind_eq_ok he
  obtain ⟨fr1, sp1⟩ := hf acc n t n1 h1
  obtain ⟨fr2, sp2⟩ := hg acc n1 ts' n2 h2
  cases he
  exact ⟨fr1.trans fr2, fun N hag hrej =>
    .cons (sp1 N (AgreeOn.back fr2 hag) hrej) (sp2 N (hag.mono fr1.len (Nat.le_refl _)) hrej)⟩

end LalrpopModel.Nfa
