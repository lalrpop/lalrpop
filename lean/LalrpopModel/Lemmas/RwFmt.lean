import LalrpopModel.Lemmas.Rw
/-! Format strings: a format whose literal prefix is `//` instantiates to a comment line. -/
namespace LalrpopModel.Rw
open LalrpopModel.RustLex

/-- a parsed format string: literal characters and `{…}` holes -/
inductive FPiece
  | lit (c : Char)
  | hole
  deriving DecidableEq, Repr

/-- skip to the closing `}` of a hole -/
def skipHole : List Char → List Char
  | [] => []
  | c :: cs => if c == '}' then cs else skipHole cs

theorem skipHole_length (cs : List Char) : (skipHole cs).length ≤ cs.length := by
  induction cs with
  | nil => exact Nat.le_refl _
  | cons c cs ih =>
    simp only [skipHole]
    split
    · exact Nat.le_succ _
    · exact Nat.le_succ_of_le ih

/-- `format_args!` syntax as far as needed: `{{` and `}}` are literal braces, `{…}` is a hole -/
def parseFmt : Nat → List Char → List FPiece
  | 0, _ => []
  | _ + 1, [] => []
  | fuel + 1, c :: cs =>
    if c == '{' then
      match cs with
      | '{' :: cs' => .lit '{' :: parseFmt fuel cs'
      | _ => .hole :: parseFmt fuel (skipHole cs)
    else if c == '}' then
      match cs with
      | '}' :: cs' => .lit '}' :: parseFmt fuel cs'
      | _ => .lit '}' :: parseFmt fuel cs
    else .lit c :: parseFmt fuel cs

def parseFormat (fmt : List Char) : List FPiece := parseFmt (fmt.length + 1) fmt

/-- the formatted text: holes are filled with the (already formatted) arguments, left to right -/
def instantiate : List FPiece → List (List Char) → List Char
  | [], _ => []
  | .lit c :: ps, args => c :: instantiate ps args
  | .hole :: ps, [] => instantiate ps []
  | .hole :: ps, a :: args => a ++ instantiate ps args

/-- the pieces after `//`: no literal newline; the first piece is a literal other than `/` and `!`
    (so not a doc comment) or there is none -/
def bodyPiecesOK : List FPiece → Bool
  | [] => true
  | .lit c :: ps => c != '/' && c != '!' && c != '\n' && ps.all (fun p => p != .lit '\n')
  | .hole :: _ => false

/-- blanks, then `//`, then a comment body -/
def commentPieces : List FPiece → Bool
  | .lit ' ' :: ps => commentPieces ps
  | .lit '/' :: .lit '/' :: ps => bodyPiecesOK ps
  | _ => false

/-- the check run on every guarded emission site: the format string has no backslash escape and
    parses to blanks + `//` + comment body -/
def isCommentFormat (fmt : List Char) : Bool := !fmt.contains '\\' && commentPieces (parseFormat fmt)

theorem mem_instantiate {x : Char} {ps : List FPiece} {args : List (List Char)} (h : x ∈ instantiate ps args) :
    .lit x ∈ ps ∨ ∃ a ∈ args, x ∈ a := by
  induction ps generalizing args with
  | nil => cases h
  | cons p ps ih =>
    cases p with
    | lit c =>
      rcases List.mem_cons.mp h with rfl | h
      · exact .inl List.mem_cons_self
      · exact (ih h).imp_left (List.mem_cons_of_mem _)
    | hole =>
      cases args with
      | nil => exact (ih h).imp_left (List.mem_cons_of_mem _)
      | cons a args =>
        rcases List.mem_append.mp h with h | h
        · exact .inr ⟨a, List.mem_cons_self, h⟩
        · exact (ih h).imp (List.mem_cons_of_mem _) fun ⟨b, hb, hx⟩ => ⟨b, List.mem_cons_of_mem _ hb, hx⟩

theorem instantiate_no_newline (ps : List FPiece) (args : List (List Char))
    (hps : ps.all (fun p => p != .lit '\n') = true) (hargs : ∀ a ∈ args, ∀ x ∈ a, x ≠ '\n') :
    ∀ x ∈ instantiate ps args, x ≠ '\n' := by
  rintro x hx rfl
  rcases mem_instantiate hx with h | ⟨a, ha, h⟩
  · exact bne_iff_ne.mp (List.all_eq_true.mp hps _ h) rfl
  · exact hargs a ha _ h rfl

theorem bodyPieces_plain (ps : List FPiece) (args : List (List Char)) (h : bodyPiecesOK ps = true)
    (hargs : ∀ a ∈ args, ∀ x ∈ a, x ≠ '\n') : plainCommentBody (instantiate ps args) := by
  cases ps with
  | nil => exact ⟨fun _ hx => absurd hx List.not_mem_nil, nofun, nofun⟩
  | cons p rs =>
    cases p with
    | hole => cases h
    | lit e =>
      simp only [bodyPiecesOK, Bool.and_eq_true, bne_iff_ne, ne_eq] at h
      obtain ⟨⟨⟨h1, h2⟩, h3⟩, h4⟩ := h
      refine ⟨fun x hx => ?_, fun he => h2 (Option.some.inj he), fun he => h1 (Option.some.inj he)⟩
      rcases List.mem_cons.mp hx with rfl | hx
      · exact h3
      · exact instantiate_no_newline rs args h4 hargs x hx

/-- **a comment format instantiates to a comment line**, whatever the arguments are, as long as they
    contain no newline (the `Debug`-escaped kinds used at the guarded sites) -/
theorem comment_format_instantiates (ps : List FPiece) (args : List (List Char))
    (h : commentPieces ps = true) (hargs : ∀ a ∈ args, ∀ x ∈ a, x ≠ '\n') :
    isCommentLine (instantiate ps args) := by
  fun_induction commentPieces ps with
  | case1 ps ih =>
    obtain ⟨n, body, he, hb⟩ := ih h
    exact ⟨n + 1, body, congrArg (' ' :: ·) he, hb⟩
  | case2 ps => exact ⟨0, instantiate ps args, rfl, bodyPieces_plain ps args h hargs⟩
  | case3 => cases h

end LalrpopModel.Rw
