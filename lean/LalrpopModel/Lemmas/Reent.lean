import LalrpopModel.Model.Reent
/-! Lemmas for C27: one step of run `i` and then the sequential runs of `rest` are the sequential runs
of `i :: rest`; a cache that holds only answers of the DFA makes `scanC`/`nextC` compute `Lex.scan`/
`Lex.next`. -/
namespace LalrpopModel.Reent

variable {S P : Type}

theorem iter_succ_inner (f : P → P) (n : Nat) (p : P) : iter f (n + 1) p = iter f n (f p) := rfl

theorem iter_succ_outer (f : P → P) (n : Nat) (p : P) : iter f (n + 1) p = f (iter f n p) := by
  induction n generalizing p with
  | zero => rfl
  | succ n ih => rw [iter_succ_inner, ih, ← iter_succ_inner]

theorem iter_add (f : P → P) (m n : Nat) (p : P) : iter f (m + n) p = iter f n (iter f m p) := by
  induction m generalizing p with
  | zero => simp [iter]
  | succ m ih => rw [Nat.add_right_comm, iter_succ_inner, ih, iter_succ_inner]

theorem iter_fixed (f : P → P) (p : P) (h : f p = p) (n : Nat) : iter f n p = p := by
  induction n with
  | zero => rfl
  | succ n ih => rw [iter_succ_inner, h, ih]

theorem stepRun_shared (pg : Prog S P) (h : ReadOnly pg) (w : World S P) (i : Nat) :
    (w.stepRun pg i).shared = w.shared := by
  unfold World.stepRun
  split
  · rfl
  · exact h _ _

theorem stepRun_getElem?_self (pg : Prog S P) (w : World S P) (i : Nat) :
    (w.stepRun pg i).runs[i]? = (w.runs[i]?).map (pg.localStep w.shared) := by
  unfold World.stepRun
  split
  · rename_i hi
    rw [hi]
    rfl
  · rename_i p hi
    rw [hi]
    exact List.getElem?_set_self (List.getElem?_eq_some_iff.mp hi).1

theorem stepRun_getElem?_ne (pg : Prog S P) (w : World S P) {i j : Nat} (e : i ≠ j) :
    (w.stepRun pg i).runs[j]? = w.runs[j]? := by
  unfold World.stepRun
  split
  · rfl
  · exact List.getElem?_set_ne e

theorem sequentialRuns_length (pg : Prog S P) (s : S) (runs : List P) (sched : List Nat) :
    (sequentialRuns pg s runs sched).length = runs.length := by
  simp [sequentialRuns]

theorem sequentialRuns_getElem? (pg : Prog S P) (s : S) (runs : List P) (sched : List Nat) (i : Nat) :
    (sequentialRuns pg s runs sched)[i]? = (runs[i]?).map (iter (pg.localStep s) (sched.count i)) := by
  simp [sequentialRuns, List.getElem?_mapIdx]

theorem sequentialRuns_nil (pg : Prog S P) (s : S) (runs : List P) : sequentialRuns pg s runs [] = runs := by
  apply List.ext_getElem?
  intro j
  rw [sequentialRuns_getElem?]
  cases runs[j]? with
  | none => rfl
  | some p => rfl

/-- only run `i` sees the step, as the first of its `count i (i :: rest)` steps -/
theorem sequentialRuns_stepRun (pg : Prog S P) (w : World S P) (i : Nat) (rest : List Nat) :
    sequentialRuns pg w.shared (w.stepRun pg i).runs rest = sequentialRuns pg w.shared w.runs (i :: rest) := by
  apply List.ext_getElem?
  intro j
  rw [sequentialRuns_getElem?, sequentialRuns_getElem?]
  by_cases e : i = j
  · subst e
    rw [stepRun_getElem?_self, List.count_cons_self]
    cases w.runs[i]? with
    | none => rfl
    | some p => rfl
  · rw [stepRun_getElem?_ne pg w e, List.count_cons_of_ne e]

theorem applyWrites_nil {L V : Type} [DecidableEq L] (st : L → V) : applyWrites ([] : List (L × V)) st = st := rfl

theorem applyWrites_frame {L V : Type} [DecidableEq L] (ws : List (L × V)) (st : L → V) (x : L)
    (hx : ∀ w ∈ ws, w.1 ≠ x) : applyWrites ws st x = st x := by
  induction ws generalizing st with
  | nil => rfl
  | cons w ws ih =>
    rw [applyWrites, ih _ fun w' hw' => hx w' (List.mem_cons_of_mem _ hw'), if_neg (hx w List.mem_cons_self).symm]

section Lexer
variable {α : Type} [DecidableEq α]
open Lex

theorem query_spec (o : Oracle α) (c : Cache α) (hc : c.Consistent o) (p : List α) :
    (c.query o p).1 = (o.matchSet p, o.dead p) ∧ (c.query o p).2.Consistent o := by
  unfold Cache.query
  split
  · rename_i r hr
    obtain ⟨l₁, l₂, he, _⟩ := List.lookup_eq_some_iff.mp hr
    exact ⟨hc (p, r) (by simp [he]), hc⟩
  · refine ⟨rfl, ?_⟩
    intro e he
    simp only [List.mem_cons] at he
    rcases he with rfl | he
    · rfl
    · exact hc e he

omit [DecidableEq α] in
theorem empty_consistent (o : Oracle α) : (Cache.empty : Cache α).Consistent o := by
  intro e he; simp [Cache.empty] at he

theorem query_matchSet {o : Oracle α} {c : Cache α} (hc : c.Consistent o) (p : List α) :
    (c.query o p).1.1 = o.matchSet p :=
  congrArg Prod.fst (query_spec o c hc p).1

theorem query_isMatch {o : Oracle α} {c : Cache α} (hc : c.Consistent o) (p : List α) :
    (!(c.query o p).1.1.isEmpty) = o.isMatch p :=
  congrArg (fun l => !l.isEmpty) (query_matchSet hc p)

theorem query_dead {o : Oracle α} {c : Cache α} (hc : c.Consistent o) (p : List α) :
    (c.query o p).1.2 = o.dead p :=
  congrArg Prod.snd (query_spec o c hc p).1

theorem scanC_spec (o : Oracle α) (text : List α) (i : Nat) (best : Option Nat) (c : Cache α)
    (hc : c.Consistent o) :
    (scanC o text i best c).1 = scan o text i best ∧ (scanC o text i best c).2.Consistent o := by
  -- each case takes the branch of `scan` that the answers of the cache select
  fun_induction scanC o text i best c with
  | case1 i best c hlt q hm ih =>
    rw [scan, if_pos hlt, if_pos ((query_isMatch hc _).symm.trans hm)]
    exact ih (query_spec o c hc _).2
  | case2 i best c hlt q hm q2 hd =>
    have hq := (query_spec o c hc (text.take i)).2
    rw [scan, if_pos hlt, if_neg fun h => hm ((query_isMatch hc _).trans h),
      if_pos ((query_dead hq _).symm.trans hd)]
    exact ⟨rfl, (query_spec o _ hq _).2⟩
  | case3 i best c hlt q hm q2 hd ih =>
    have hq := (query_spec o c hc (text.take i)).2
    rw [scan, if_pos hlt, if_neg fun h => hm ((query_isMatch hc _).trans h),
      if_neg fun h => hd ((query_dead hq _).trans h)]
    exact ih (query_spec o _ hq _).2
  | case4 i best c hlt q hm =>
    rw [scan, if_neg hlt, if_pos ((query_isMatch hc _).symm.trans hm)]
    exact ⟨rfl, (query_spec o c hc _).2⟩
  | case5 i best c hlt q hm =>
    rw [scan, if_neg hlt, if_neg fun h => hm ((query_isMatch hc _).trans h)]
    exact ⟨rfl, (query_spec o c hc _).2⟩

theorem scanC_eq {o : Oracle α} {text : List α} {i : Nat} {best b : Option Nat} {c c1 : Cache α}
    (hc : c.Consistent o) (hs : scanC o text i best c = (b, c1)) : scan o text i best = b ∧ c1.Consistent o := by
  have h := scanC_spec o text i best c hc
  rw [hs] at h
  exact ⟨h.1.symm, h.2⟩

theorem nextC_spec (o : Oracle α) (skip : List Bool) (st : St α) (c : Cache α) (hc : c.Consistent o) :
    (nextC o skip st c).1 = (next o skip st).1 ∧ (nextC o skip st c).2.1 = (next o skip st).2 ∧
      (nextC o skip st c).2.2.Consistent o := by
  -- the cases of `nextC`; in each, `next` takes the same branch once the scan and the query are rewritten
  fun_induction nextC o skip st c with
  | case1 st c he =>
    rw [next, if_pos he]
    exact ⟨rfl, rfl, hc⟩
  | case2 st c he c1 hs =>
    obtain ⟨hscan, h1⟩ := scanC_eq hc hs
    rw [next, if_neg he, hscan]
    exact ⟨rfl, rfl, h1⟩
  | case3 st c he c1 hs q st' =>
    obtain ⟨hscan, h1⟩ := scanC_eq hc hs
    rw [next, if_neg he, hscan]
    exact ⟨rfl, rfl, (query_spec o c1 h1 _).2⟩
  | case5 st c he len c1 hs q index st' hz hk ih =>
    obtain ⟨hscan, h1⟩ := scanC_eq hc hs
    have hidx : maxIdx (o.matchSet (st.text.take len)) = index := congrArg maxIdx (query_matchSet h1 _).symm
    rw [next, if_neg he, hscan]
    simp only [if_neg hz, hidx, hk]
    exact ih (query_spec o c1 h1 _).2
  | case4 st c he len c1 hs q index st' hz hk | case6 st c he len c1 hs q index st' hz hk =>
    obtain ⟨hscan, h1⟩ := scanC_eq hc hs
    have hidx : maxIdx (o.matchSet (st.text.take len)) = index := congrArg maxIdx (query_matchSet h1 _).symm
    rw [next, if_neg he, hscan]
    simp only [if_neg hz, hidx, hk, true_and]
    exact ⟨rfl, (query_spec o c1 h1 _).2⟩

/-- `n` cached `next` calls of one matcher = `n` calls of the cache-free `Lex.next` -/
theorem lex_iter_spec (b : Builder α) (n : Nat) (m : Matcher α) (hc : m.cache.Consistent b.dfa) :
    ((iter (lexProg.localStep b) n m).st, (iter (lexProg.localStep b) n m).out) = lexRef b n m.st m.out ∧
      (iter (lexProg.localStep b) n m).cache.Consistent b.dfa := by
  induction n generalizing m with
  | zero => exact ⟨rfl, hc⟩
  | succ n ih =>
    have h := nextC_spec b.dfa b.skip m.st m.cache hc
    rw [iter_succ_inner]
    have := ih (lexProg.localStep b m) h.2.2
    refine ⟨?_, this.2⟩
    rw [this.1]
    simp only [Prog.localStep, lexProg, lexRef]
    rw [h.1, h.2.1]

end Lexer

theorem count_replicate_ne (n i j : Nat) (h : i ≠ j) : (List.replicate n i).count j = 0 := by
  rw [List.count_replicate, if_neg (by simpa using h)]

theorem count_seqSchedFrom_lt (ns : List Nat) {k i : Nat} (h : i < k) : (seqSchedFrom k ns).count i = 0 := by
  induction ns generalizing k with
  | nil => rfl
  | cons n ns ih =>
    rw [seqSchedFrom, List.count_append, count_replicate_ne n k i (Nat.ne_of_gt h), ih (Nat.lt_succ_of_lt h)]

theorem count_seqSchedFrom (ns : List Nat) (k i : Nat) : (seqSchedFrom k ns).count (k + i) = ns.getD i 0 := by
  induction ns generalizing k i with
  | nil => rfl
  | cons n ns ih =>
    rw [seqSchedFrom, List.count_append]
    cases i with
    | zero =>
      rw [Nat.add_zero, List.count_replicate_self, count_seqSchedFrom_lt ns (Nat.lt_succ_self k), Nat.add_zero,
        List.getD_cons_zero]
    | succ i =>
      have e : k + (i + 1) = k + 1 + i := by omega
      rw [e, count_replicate_ne n k _ (by omega), ih, List.getD_cons_succ, Nat.zero_add]

theorem count_seqSched (ns : List Nat) (i : Nat) : (seqSched ns).count i = ns.getD i 0 := by
  have := count_seqSchedFrom ns 0 i
  rwa [Nat.zero_add] at this

theorem lrProg_readOnly : ReadOnly lrProg := fun _ _ => rfl

theorem lr_done_fixed (s : LRShared) (p : LRRun) (r : LR.Outcome) (h : lrOutcome p = some r) :
    lrProg.localStep s p = p := by
  obtain ⟨fa, sl, c, ph⟩ := p
  cases ph with
  | done _ => rfl
  | _ => cases h

end LalrpopModel.Reent
