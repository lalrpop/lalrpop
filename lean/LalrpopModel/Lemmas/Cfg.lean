import LalrpopModel.Model.Cfg
/-! The two character maps between Cargo feature names and `CARGO_FEATURE_*` variables (`envChar`,
`cargoChar`) are read on code points (`envNat`, `cargoNat`), where their ranges and their round trip
are arithmetic. -/
namespace LalrpopModel.Cfg
open LalrpopModel.PT

theorem retainMap_eq {α : Type} (keep : α → Bool) (upd : α → α) (l : List α) :
    retainMap keep upd l = (l.filter keep).map upd := by
  induction l with
  | nil => rfl
  | cons x xs ih =>
    simp only [retainMap, List.filter_cons]
    split <;> simp [ih]

theorem stripPrefix_append (p s : Str) : stripPrefix p (p ++ s) = some s := by
  induction p with
  | nil => rfl
  | cons c cs ih => simp [stripPrefix, ih]

/-- core has `Char.ofNat_toNat` and no lemma for this direction -/
theorem toNat_ofNat_small (n : Nat) (h : n < 0xD800) : (Char.ofNat n).toNat = n := by
  have hv : n.isValidChar := Or.inl h
  unfold Char.ofNat
  rw [dif_pos hv]
  exact UInt32.toNat_ofNatLT

theorem caseShift_toNat (lo hi : Char) (g : Nat → Nat) (c : Char)
    (hg : ∀ n, n ≤ hi.toNat → g n < 0xD800) :
    (if lo ≤ c ∧ c ≤ hi then Char.ofNat (g c.toNat) else c).toNat =
      if lo.toNat ≤ c.toNat ∧ c.toNat ≤ hi.toNat then g c.toNat else c.toNat := by
  by_cases h : lo ≤ c ∧ c ≤ hi
  · have h' : lo.toNat ≤ c.toNat ∧ c.toNat ≤ hi.toNat := h
    rw [if_pos h, if_pos h', toNat_ofNat_small _ (hg _ h'.2)]
  · have h' : ¬ (lo.toNat ≤ c.toNat ∧ c.toNat ≤ hi.toNat) := h
    rw [if_neg h, if_neg h']

theorem asciiLower_toNat (c : Char) :
    (asciiLower c).toNat = if 65 ≤ c.toNat ∧ c.toNat ≤ 90 then c.toNat + 32 else c.toNat :=
  caseShift_toNat 'A' 'Z' (· + 32) c fun n (h : n ≤ 90) => by omega

theorem asciiUpper_toNat (c : Char) :
    (asciiUpper c).toNat = if 97 ≤ c.toNat ∧ c.toNat ≤ 122 then c.toNat - 32 else c.toNat :=
  caseShift_toNat 'a' 'z' (· - 32) c fun n (h : n ≤ 122) => by omega

/-- one character through `envFeature`, and what that does to its number -/
def envChar (c : Char) : Char := asciiLower (if c = '_' then '-' else c)

def envNat (n : Nat) : Nat := if n = 95 then 45 else if 65 ≤ n ∧ n ≤ 90 then n + 32 else n

theorem envChar_toNat (c : Char) : (envChar c).toNat = envNat c.toNat := by
  unfold envChar envNat
  by_cases h : c = '_'
  · subst h; decide
  · have hn : c.toNat ≠ 95 := fun e => h (Char.toNat_inj.mp e)
    rw [if_neg h, if_neg hn, asciiLower_toNat]

theorem envNat_range (n : Nat) : envNat n ≠ 95 ∧ ¬ (65 ≤ envNat n ∧ envNat n ≤ 90) := by
  unfold envNat
  by_cases e1 : n = 95
  · rw [if_pos e1]; omega
  · rw [if_neg e1]
    by_cases e2 : 65 ≤ n ∧ n ≤ 90
    · rw [if_pos e2]; omega
    · rw [if_neg e2]; exact ⟨e1, e2⟩

/-- one character through Cargo's naming, and what that does to its number -/
def cargoChar (c : Char) : Char := asciiUpper (if c = '-' then '_' else c)

def cargoNat (n : Nat) : Nat := if n = 45 then 95 else if 97 ≤ n ∧ n ≤ 122 then n - 32 else n

theorem cargoChar_toNat (c : Char) : (cargoChar c).toNat = cargoNat c.toNat := by
  unfold cargoChar cargoNat
  by_cases h : c = '-'
  · subst h; decide
  · have hn : c.toNat ≠ 45 := fun e => h (Char.toNat_inj.mp e)
    rw [if_neg h, if_neg hn, asciiUpper_toNat]

theorem envNat_cargoNat (n : Nat) (h1 : n ≠ 95) (h2 : ¬ (65 ≤ n ∧ n ≤ 90)) :
    envNat (cargoNat n) = n := by
  unfold cargoNat
  by_cases e1 : n = 45
  · rw [if_pos e1, e1]; rfl
  · rw [if_neg e1]
    by_cases e2 : 97 ≤ n ∧ n ≤ 122
    · rw [if_pos e2, envNat, if_neg (by omega), if_pos (by omega)]; omega
    · rw [if_neg e2, envNat, if_neg h1, if_neg h2]

theorem envChar_cargoChar (c : Char) (h1 : c.toNat ≠ 95) (h2 : ¬ (65 ≤ c.toNat ∧ c.toNat ≤ 90)) :
    envChar (cargoChar c) = c := by
  apply Char.toNat_inj.mp
  rw [envChar_toNat, cargoChar_toNat]
  exact envNat_cargoNat _ h1 h2

end LalrpopModel.Cfg
