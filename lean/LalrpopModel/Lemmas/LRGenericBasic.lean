import LalrpopModel.Model.LR.Driver
/-!
Facts about the M-LR driver (`Model/LR/Driver.lean`) that hold for ARBITRARY tables. `Step` describes
one machine step relationally; the invariants of the other `LRGeneric*` files are proved by cases on it.
-/
namespace LalrpopModel.LR.Generic
open LalrpopModel.LR

variable (T : Tables) (af : Nat) (failAt : Option Nat) (startLoc : Int)

@[simp] theorem step_done (c : Cfg) (r : Outcome) :
    step T af failAt startLoc c (.done r) = (c, .done r) := rfl

@[simp] theorem run_zero (c : Cfg) (ph : Phase) : run T af failAt startLoc 0 c ph = (c, ph) := by
  cases ph <;> rfl

@[simp] theorem run_done (n : Nat) (c : Cfg) (r : Outcome) :
    run T af failAt startLoc n c (.done r) = (c, .done r) := by
  cases n <;> rfl

theorem run_succ (n : Nat) (c : Cfg) (ph : Phase) :
    run T af failAt startLoc (n + 1) c ph =
      run T af failAt startLoc n (step T af failAt startLoc c ph).1 (step T af failAt startLoc c ph).2 := by
  cases ph <;> simp [run]

theorem run_add (m n : Nat) (c : Cfg) (ph : Phase) :
    run T af failAt startLoc (m + n) c ph =
      run T af failAt startLoc n (run T af failAt startLoc m c ph).1 (run T af failAt startLoc m c ph).2 := by
  induction m generalizing c ph with
  | zero => simp
  | succ m ih => rw [Nat.add_right_comm, run_succ, ih, ← run_succ]

theorem run_succ' (n : Nat) (c : Cfg) (ph : Phase) :
    run T af failAt startLoc (n + 1) c ph =
      step T af failAt startLoc (run T af failAt startLoc n c ph).1 (run T af failAt startLoc n c ph).2 := by
  rw [run_add, run_succ, run_zero]

section
variable {T af failAt startLoc}

theorem run_one {c : Cfg} {ph : Phase} {x : Cfg × Phase} (hs : step T af failAt startLoc c ph = x) :
    run T af failAt startLoc 1 c ph = x := by
  rw [run_succ, run_zero]
  exact hs

theorem run_cons {c c1 : Cfg} {ph ph1 : Phase} {x : Cfg × Phase} {n : Nat}
    (hs : step T af failAt startLoc c ph = (c1, ph1)) (hrun : run T af failAt startLoc n c1 ph1 = x) :
    run T af failAt startLoc (n + 1) c ph = x := by
  rw [run_succ, hs]
  exact hrun

theorem run_snoc {c c1 : Cfg} {ph ph1 : Phase} {x : Cfg × Phase} {n : Nat}
    (hrun : run T af failAt startLoc n c ph = (c1, ph1)) (hs : step T af failAt startLoc c1 ph1 = x) :
    run T af failAt startLoc (n + 1) c ph = x := by
  rw [run_succ', hrun]
  exact hs

end

theorem run_done_stable {n : Nat} {c0 : Cfg} {ph0 : Phase} {c : Cfg} {r : Outcome}
    (h : run T af failAt startLoc n c0 ph0 = (c, .done r)) {m : Nat} (hm : n ≤ m) :
    run T af failAt startLoc m c0 ph0 = (c, .done r) := by
  obtain ⟨k, rfl⟩ := Nat.exists_eq_add_of_le hm
  rw [run_add, h]; simp

def Reach (c0 : Cfg) (ph0 : Phase) (c : Cfg) (ph : Phase) : Prop :=
  ∃ n, run T af failAt startLoc n c0 ph0 = (c, ph)

theorem Reach.refl (c : Cfg) (ph : Phase) : Reach T af failAt startLoc c ph c ph := ⟨0, by simp⟩

theorem Reach.step {c0 ph0 c ph} (h : Reach T af failAt startLoc c0 ph0 c ph) :
    Reach T af failAt startLoc c0 ph0 (step T af failAt startLoc c ph).1 (step T af failAt startLoc c ph).2 := by
  obtain ⟨n, h⟩ := h
  exact ⟨n + 1, by rw [run_succ', h]⟩

theorem run_inv (I : Cfg → Phase → Prop)
    (hstep : ∀ c ph, I c ph → I (step T af failAt startLoc c ph).1 (step T af failAt startLoc c ph).2)
    {c0 : Cfg} {ph0 : Phase} (h0 : I c0 ph0) (n : Nat) :
    I (run T af failAt startLoc n c0 ph0).1 (run T af failAt startLoc n c0 ph0).2 := by
  induction n with
  | zero => simpa using h0
  | succ n ih => rw [run_succ']; exact hstep _ _ ih

theorem reach_inv (I : Cfg → Phase → Prop)
    (hstep : ∀ c ph, I c ph → I (step T af failAt startLoc c ph).1 (step T af failAt startLoc c ph).2)
    {c0 : Cfg} {ph0 : Phase} (h0 : I c0 ph0) {c : Cfg} {ph : Phase}
    (h : Reach T af failAt startLoc c0 ph0 c ph) : I c ph := by
  obtain ⟨n, h⟩ := h
  have := run_inv T af failAt startLoc I hstep h0 n
  rwa [h] at this

def phDone : Phase → Bool
  | .done _ => true
  | _ => false

theorem phDone_of_ne {ph : Phase} (hnd : ∀ r, ph ≠ .done r) : phDone ph = false := by
  cases ph with
  | done r => exact (hnd r rfl).elim
  | _ => rfl

theorem last_step {n : Nat} {c0 : Cfg} {ph0 : Phase} {c : Cfg} {r : Outcome}
    (h : run T af failAt startLoc n c0 ph0 = (c, .done r)) (h0 : phDone ph0 = false) :
    ∃ k c1 ph1, k < n ∧ run T af failAt startLoc k c0 ph0 = (c1, ph1) ∧ phDone ph1 = false ∧
      step T af failAt startLoc c1 ph1 = (c, .done r) := by
  induction n with
  | zero =>
    rw [run_zero] at h
    cases h
    cases h0
  | succ n ih =>
    rcases hd : run T af failAt startLoc n c0 ph0 with ⟨c1, ph1⟩
    rw [run_succ', hd] at h
    cases ph1 with
    | done r1 =>
      -- the run is over at `n` already: its last live configuration is an earlier one
      cases h
      obtain ⟨k, c2, ph2, hk, h2⟩ := ih hd
      exact ⟨k, c2, ph2, Nat.lt_succ_of_lt hk, h2⟩
    | _ => exact ⟨n, _, _, Nat.lt_succ_self n, hd, rfl, h⟩

/-- the span `__reduce` gives to the new symbol -/
def reduceSpan (popped rest : List SymTriple) (laStart : Option Int) : Int × Int :=
  match popped.head?, popped.getLast? with
  | some f, some l => (f.1, l.2.2)
  | _, _ =>
    let s := match laStart with
      | some x => x
      | none => match rest.head? with
        | some top => top.2.2
        | none => startLoc
    (s, s)

/-- configuration after the action code of production `p` (arity `n`) ran: symbols popped -/
def popCfg (c : Cfg) (p n : Nat) : Cfg :=
  { c with acts := c.acts + 1, trace := p :: c.trace, symbols := c.symbols.drop n }

/-- the symbol `__reduce` pushes -/
def reduceSym (c : Cfg) (p n : Nat) (laStart : Option Int) : SymTriple :=
  let popped := (c.symbols.take n).reverse
  let s := reduceSpan startLoc popped (c.symbols.drop n) laStart
  (s.1, Tree.node p s.1 s.2 (Forest.ofList (popped.map (·.2.1))), s.2)

def pushCfg (c : Cfg) (p n : Nat) (laStart : Option Int) : Cfg :=
  { popCfg c p n with symbols := reduceSym startLoc c p n laStart :: c.symbols.drop n }

/-- `__reduce` after its table lookups for `p`: arity `n`, left-hand side `A`, `st` start production,
    `fal` fallible action -/
def reduceWith (n A : Nat) (st fal : Bool) (c : Cfg) (p : Nat) (la : Option Int) : ReduceResult :=
  if c.symbols.length < n then .finished c (.panic .symbolMismatch)
  else if fal && failAt == some c.acts then .finished (popCfg c p n) (.err (.user (failCode c.acts)))
  else if st then
    match (c.symbols.take n).reverse with
    | [k] => .finished (popCfg c p n) (.ok k.2.1)
    | _ => .finished (popCfg c p n) (.panic .badStartProduction)
  else if c.states.length < n then .finished (pushCfg startLoc c p n la) (.panic .statesUnderflow)
  else match c.states.drop n with
    | [] => .finished (pushCfg startLoc c p n la) (.panic .emptyStates)
    | below :: more => .continue_ { pushCfg startLoc c p n la with states := T.gotoAt below A :: below :: more }

theorem reduce_eq_reduceWith (c : Cfg) (p : Nat) (la : Option Int) :
    reduce T failAt startLoc c p la =
      match T.prodLen[p]?, T.prodLhs[p]?, T.isStart[p]?, T.fallible[p]? with
      | some n, some A, some st, some fal => reduceWith T failAt startLoc n A st fal c p la
      | _, _, _, _ => .finished c (.panic .invalidAction) := rfl

theorem reduce_of_lookups (c : Cfg) (p : Nat) (la : Option Int) {n A : Nat} {st fal : Bool}
    (h1 : T.prodLen[p]? = some n) (h2 : T.prodLhs[p]? = some A) (h3 : T.isStart[p]? = some st)
    (h4 : T.fallible[p]? = some fal) :
    reduce T failAt startLoc c p la = reduceWith T failAt startLoc n A st fal c p la := by
  rw [reduce_eq_reduceWith, h1, h2, h3, h4]

inductive ReduceSpec (c : Cfg) (p : Nat) (laStart : Option Int) : ReduceResult → Prop
  | bad (tag : PanicTag) (htag : tag ≠ .outOfFuel) : ReduceSpec c p laStart (.finished c (.panic tag))
  | fail (n : Nat) (hn : n ≤ c.symbols.length) (hlen : T.prodLen[p]? = some n)
      (hfal : T.fallible[p]? = some true) (hf : failAt = some c.acts) :
      ReduceSpec c p laStart (.finished (popCfg c p n) (.err (.user (failCode c.acts))))
  | accept (n : Nat) (hn : n ≤ c.symbols.length) (hlen : T.prodLen[p]? = some n)
      (hnf : T.fallible[p]? = some true → failAt ≠ some c.acts)
      (hst : T.isStart[p]? = some true) (k : SymTriple) (hk : c.symbols.take n = [k]) :
      ReduceSpec c p laStart (.finished (popCfg c p n) (.ok k.2.1))
  | badStart (n : Nat) (hn : n ≤ c.symbols.length) (hlen : T.prodLen[p]? = some n)
      (hnf : T.fallible[p]? = some true → failAt ≠ some c.acts) :
      ReduceSpec c p laStart (.finished (popCfg c p n) (.panic .badStartProduction))
  | pushedPanic (n : Nat) (hn : n ≤ c.symbols.length) (hlen : T.prodLen[p]? = some n)
      (hnf : T.fallible[p]? = some true → failAt ≠ some c.acts) (tag : PanicTag) (htag : tag ≠ .outOfFuel) :
      ReduceSpec c p laStart (.finished (pushCfg startLoc c p n laStart) (.panic tag))
  | cont (n A : Nat) (hn : n ≤ c.symbols.length) (hlen : T.prodLen[p]? = some n)
      (hnf : T.fallible[p]? = some true → failAt ≠ some c.acts)
      (hlhs : T.prodLhs[p]? = some A) (hst : T.isStart[p]? = some false)
      (below : Nat) (more : List Nat) (hs : c.states.drop n = below :: more) :
      ReduceSpec c p laStart
        (.continue_ { pushCfg startLoc c p n laStart with states := T.gotoAt below A :: below :: more })

theorem reduce_spec (c : Cfg) (p : Nat) (laStart : Option Int) :
    ReduceSpec T failAt startLoc c p laStart (reduce T failAt startLoc c p laStart) := by
  rw [reduce_eq_reduceWith]
  split
  · rename_i n A st fal hlen hlhs hst hfal
    unfold reduceWith
    by_cases hlt : c.symbols.length < n
    · simp only [hlt, ↓reduceIte]; exact .bad _ nofun
    · simp only [hlt, ↓reduceIte]
      have hn : n ≤ c.symbols.length := Nat.le_of_not_lt hlt
      by_cases hf : (fal && failAt == some c.acts) = true
      · simp only [hf, ↓reduceIte]
        simp at hf
        obtain ⟨h1, h2⟩ := hf
        subst h1
        exact .fail n hn hlen hfal h2
      · simp only [hf]
        have hnf : T.fallible[p]? = some true → failAt ≠ some c.acts := by
          intro h1 h2
          apply hf
          rw [hfal] at h1
          cases h1
          simp [h2]
        cases st
        · simp only [Bool.false_eq_true, ↓reduceIte]
          by_cases hsl : c.states.length < n
          · simp only [hsl, ↓reduceIte]
            exact .pushedPanic n hn hlen hnf _ nofun
          · simp only [hsl, ↓reduceIte]
            cases hs : List.drop n c.states with
            | nil => exact .pushedPanic n hn hlen hnf _ nofun
            | cons below more => exact .cont n A hn hlen hnf hlhs hst below more hs
        · simp only [↓reduceIte]
          generalize hr : (List.take n c.symbols).reverse = r
          match r, hr with
          | [k], hr =>
            have : c.symbols.take n = [k] := by
              have := congrArg List.reverse hr
              simpa using this
            exact .accept n hn hlen hnf hst k this
          | [], _ => exact .badStart n hn hlen hnf
          | _ :: _ :: _, _ => exact .badStart n hn hlen hnf
  · exact .bad _ nofun

theorem ReduceSpec.fin_ne_fuel {T : Tables} {failAt : Option Nat} {startLoc : Int} {c c' : Cfg} {p : Nat}
    {ls : Option Int} {r : Outcome} (h : ReduceSpec T failAt startLoc c p ls (.finished c' r)) :
    r ≠ .panic .outOfFuel := by
  cases h with
  | bad tag htag => exact fun h => htag (Outcome.panic.inj h)
  | pushedPanic n hn hlen hnf tag htag => exact fun h => htag (Outcome.panic.inj h)
  | _ => exact nofun

/-- configuration after one `tokens.next()` that yielded the token `t` -/
def pullTokCfg (c : Cfg) (t : Tok) (rest : List Item) : Cfg :=
  { c with input := rest, pulled := c.pulled + 1, lastLoc := t.r }

inductive NextSpec (c : Cfg) : Cfg → NextToken → Prop
  | eof (h : c.input = []) : NextSpec c { c with pulled := c.pulled + 1 } .eof
  | err (e : Nat) (rest : List Item) (h : c.input = .err e :: rest) :
      NextSpec c { c with input := rest, pulled := c.pulled + 1 } (.done (.err (.user e)))
  | found (t : Tok) (i : Term) (rest : List Item) (h : c.input = .tok t :: rest) (hk : t.kind = some i) :
      NextSpec c (pullTokCfg c t rest) (.found t i)
  | unrec (t : Tok) (rest : List Item) (h : c.input = .tok t :: rest) (hk : t.kind = none)
      (ex : List Term) (hex : expected T af c.states = .ok ex) :
      NextSpec c (pullTokCfg c t rest) (.done (.err (.unrecognizedToken t ex)))
  | panic (t : Tok) (rest : List Item) (h : c.input = .tok t :: rest) (hk : t.kind = none) (tag : PanicTag)
      (hex : expected T af c.states = .error tag) : NextSpec c (pullTokCfg c t rest) (.done (.panic tag))

theorem nextToken_spec (c : Cfg) :
    NextSpec T af c (nextToken T af c).1 (nextToken T af c).2 := by
  obtain ⟨sts, syms, inp, ll, pu, ac, tr⟩ := c
  unfold nextToken
  cases inp with
  | nil => exact .eof rfl
  | cons it rest =>
    cases it with
    | err e => exact .err e rest rfl
    | tok t =>
      simp only
      cases hk : t.kind with
      | some i => exact .found t i rest rfl hk
      | none =>
        simp only [unrecognizedError]
        cases hex : expected T af sts with
        | error e => exact .panic t rest rfl hk e hex
        | ok ex => exact .unrec t rest rfl hk ex hex

theorem getBot_some {α : Type} {l : List α} {i : Nat} {x : α} (h : getBot l i = some x) :
    i < l.length ∧ l[l.length - 1 - i]? = some x := by
  unfold getBot at h
  split at h
  · exact ⟨‹_›, h⟩
  · cases h

theorem getBot_none {α : Type} {l : List α} {i : Nat} (h : getBot l i = none) : l.length ≤ i := by
  unfold getBot at h
  split at h
  · rw [List.getElem?_eq_getElem (by omega)] at h; cases h
  · exact Nat.le_of_not_lt ‹_›

theorem truncBot_of_le {α : Type} {l : List α} {k : Nat} (h : l.length ≤ k) : truncBot l k = l := by
  unfold truncBot
  rw [Nat.sub_eq_zero_of_le h]; rfl

theorem truncBot_length {α : Type} {l : List α} {k : Nat} (h : k ≤ l.length) : (truncBot l k).length = k := by
  unfold truncBot
  rw [List.length_drop, Nat.sub_sub_self h]

theorem truncBot_ne_nil {α : Type} {l : List α} (k : Nat) (h : l ≠ []) : truncBot l (k + 1) ≠ [] := by
  intro he
  have h1 := List.drop_eq_nil_iff.mp he
  have h2 : 0 < l.length := List.length_pos_iff.mpr h
  omega

/-- used with the symbol stack as `l` and the state stack, one longer, as `l'` -/
theorem truncBot_shorter {α β : Type} {l : List α} {l' : List β} (h : l'.length = l.length + 1) (k : Nat) :
    truncBot l k = l.drop (l'.length - (k + 1)) := by
  rw [truncBot, h, Nat.add_sub_add_right]

theorem findState_some {T : Tables} {af sl k top : Nat} {oi : Option Term} {states : List Nat}
    (h : findState T af oi sl states k = .ok (some top)) :
    top < k ∧ ∃ st more a es, truncBot states (top + 1) = st :: more ∧ T.errorActionAt st = some a ∧
      asShift a = some es ∧ accepts T af (es :: st :: more) oi = .ok true := by
  fun_induction findState T af oi sl states k with
  | case5 k cand st more hc a ha es hes hacc =>
    cases h
    exact ⟨Nat.lt_succ_self _, st, more, a, es, hc, ha, hes, hc ▸ hacc⟩
  -- the candidate is passed over: `accepts` answers `false`, or the error action is no shift
  | case6 | case7 =>
    rename_i ih
    exact (ih h).imp_left Nat.lt_succ_of_lt
  | _ => cases h

/-- `'find_state` panics at a candidate `truncBot states (j + 1)`: it is empty, or its top has no
    error action, or `accepts` panics on it with the error state pushed -/
theorem findState_error {T : Tables} {af sl k : Nat} {oi : Option Term} {states : List Nat} {e : PanicTag}
    (h : findState T af oi sl states k = .error e) :
    ∃ j, (truncBot states (j + 1) = [] ∧ e = .recoveryIndex) ∨
      ∃ st more, truncBot states (j + 1) = st :: more ∧
        ((T.errorActionAt st = none ∧ e = .actionIndex) ∨
          ∃ a es, T.errorActionAt st = some a ∧ asShift a = some es ∧
            accepts T af (es :: st :: more) oi = .error e) := by
  fun_induction findState T af oi sl states k with
  | case2 k cand hc =>
    cases h
    exact ⟨k, .inl ⟨hc, rfl⟩⟩
  | case3 k cand st more hc ha =>
    cases h
    exact ⟨k, .inr ⟨st, more, hc, .inl ⟨ha, rfl⟩⟩⟩
  | case4 k cand st more hc a ha es hes e' hacc =>
    cases h
    exact ⟨k, .inr ⟨st, more, hc, .inr ⟨a, es, ha, hes, hc ▸ hacc⟩⟩⟩
  | case6 | case7 =>
    rename_i ih
    exact ih h
  | _ => cases h

/-- left end of the span `error_recovery` gives the error symbol -/
def recStart (c : Cfg) (dropped : List Tok) (top : Nat) : Except PanicTag Int :=
  match getBot c.symbols top with
  | some s => .ok s.1
  | none =>
    match dropped.head? with
    | some d => .ok d.l
    | none =>
      if top > 0 then
        match getBot c.symbols (top - 1) with
        | some s => .ok s.2.2
        | none => .error .recoveryIndex
      else .ok startLoc

/-- its right end -/
def recEnd (c : Cfg) (la : Option (Tok × Term)) (dropped : List Tok) (statesLen top : Nat) (start : Int) :
    Except PanicTag Int :=
  match dropped.getLast? with
  | some d => .ok d.r
  | none =>
    if statesLen - 1 > top then
      match c.symbols.head? with
      | some s => .ok s.2.2
      | none => .error .recoveryIndex
    else match la with
      | some (t, _) => .ok t.l
      | none => .ok start

theorem recStart_error {c : Cfg} {dropped : List Tok} {top : Nat} {e : PanicTag}
    (h : recStart startLoc c dropped top = .error e) : e = .recoveryIndex := by
  unfold recStart at h
  split at h
  · cases h
  · split at h
    · cases h
    · split at h
      · split at h
        · cases h
        · exact (Except.error.inj h).symm
      · cases h

theorem recEnd_error {c : Cfg} {la : Option (Tok × Term)} {dropped : List Tok} {sl top : Nat} {l : Int}
    {e : PanicTag} (h : recEnd c la dropped sl top l = .error e) : e = .recoveryIndex := by
  unfold recEnd at h
  split at h
  · cases h
  · split at h
    · split at h
      · cases h
      · exact (Except.error.inj h).symm
    · split at h <;> cases h

/-- both stacks cut down to the state found, the error symbol and the state its shift leads to pushed -/
def recCfg (c : Cfg) (es top : Nat) (sym : SymTriple) : Cfg :=
  { c with states := es :: truncBot c.states (top + 1), symbols := sym :: truncBot c.symbols top }

/-- phase the caller of `error_recovery` continues in -/
def afterPh (la : Option (Tok × Term)) (fromEof : Bool) : Phase :=
  match la, fromEof with
  | some (t, i), false => .act t i
  | some _, true => .done (.panic .eofFoundToken)
  | none, _ => .eof

theorem afterRecovery_eq (c : Cfg) (la : Option (Tok × Term)) (fe : Bool) :
    afterRecovery c la fe = (c, afterPh la fe) := by
  unfold afterRecovery afterPh
  split <;> rfl

inductive PushSpec (c : Cfg) (la : Option (Tok × Term)) (error : PErr) (dropped : List Tok)
    (statesLen top : Nat) (fromEof : Bool) : Cfg → Phase → Prop
  | panic (tag : PanicTag) (htag : tag ≠ .outOfFuel) :
      PushSpec c la error dropped statesLen top fromEof c (.done (.panic tag))
  | ok (l r : Int) (hl : recStart startLoc c dropped top = .ok l)
      (hr : recEnd c la dropped statesLen top l = .ok r)
      (rs : Nat) (rest : List Nat) (hrs : truncBot c.states (top + 1) = rs :: rest)
      (a : Int) (ha : T.errorActionAt rs = some a) (es : Nat) (hes : asShift a = some es) :
      PushSpec c la error dropped statesLen top fromEof
        (recCfg c es top (l, Tree.err error dropped, r)) (afterPh la fromEof)

theorem pushRecovery_eq (c : Cfg) (la : Option (Tok × Term)) (error : PErr) (dropped : List Tok)
    (statesLen top : Nat) (fromEof : Bool) :
    pushRecovery T startLoc c la error dropped statesLen top fromEof =
    match recStart startLoc c dropped top with
    | .error e => (c, .done (.panic e))
    | .ok start =>
      match recEnd c la dropped statesLen top start with
      | .error e => (c, .done (.panic e))
      | .ok end_ =>
        match truncBot c.states (top + 1) with
        | [] => (c, .done (.panic .recoveryIndex))
        | rs :: _ =>
          match T.errorActionAt rs with
          | none => (c, .done (.panic .actionIndex))
          | some a =>
            match asShift a with
            | none => (c, .done (.panic .errorShiftUnwrap))
            | some es =>
              afterRecovery { c with states := es :: truncBot c.states (top + 1),
                                     symbols := (start, Tree.err error dropped, end_) :: truncBot c.symbols top }
                la fromEof := by
  unfold pushRecovery recStart recEnd
  rfl

theorem pushRecovery_spec (c : Cfg) (la : Option (Tok × Term)) (error : PErr) (dropped : List Tok)
    (sl top : Nat) (fe : Bool) :
    PushSpec T startLoc c la error dropped sl top fe
      (pushRecovery T startLoc c la error dropped sl top fe).1
      (pushRecovery T startLoc c la error dropped sl top fe).2 := by
  rw [pushRecovery_eq]
  cases hl : recStart startLoc c dropped top with
  | error e => exact .panic e (recStart_error startLoc hl ▸ nofun)
  | ok l =>
    simp only
    cases hr : recEnd c la dropped sl top l with
    | error e => exact .panic e (recEnd_error hr ▸ nofun)
    | ok r =>
      simp only
      cases hrs : truncBot c.states (top + 1) with
      | nil => exact .panic _ nofun
      | cons rs rest =>
        simp only
        cases ha : T.errorActionAt rs with
        | none => exact .panic _ nofun
        | some a =>
          simp only
          cases hes : asShift a with
          | none => exact .panic _ nofun
          | some es =>
            simp only [afterRecovery_eq]
            exact hrs ▸ .ok l r hl hr rs rest hrs a ha es hes

/-- where the three reducing loops take their action from -/
def RedCtx (c : Cfg) : Phase → Nat → Option Int → Prop
  | .act la idx, p, ls => ls = some la.l ∧ ∃ top rest a, c.states = top :: rest ∧
      T.actionAt top idx = some a ∧ asShift a = none ∧ asReduce a = some p
  | .eof, p, ls => ls = none ∧ ∃ top rest a, c.states = top :: rest ∧
      T.eofActionAt top = some a ∧ asReduce a = some p
  | .recReduce la _ _, p, ls => ls = la.map (·.1.l) ∧ ∃ top rest a, c.states = top :: rest ∧
      T.errorActionAt top = some a ∧ asReduce a = some p
  | _, _, _ => False

/-- what `parse` / `parse_eof` / `error_recovery` return when `__reduce` answers `Some(r)` -/
def finOutcome : Phase → Outcome → Outcome
  | .act la _, .ok _ => .err (.extraToken la)
  | _, r => r

theorem finOutcome_eq_cases (ph : Phase) (r : Outcome) :
    finOutcome ph r = r ∨ ∃ la v, finOutcome ph r = .err (.extraToken la) ∧ r = .ok v := by
  cases ph with
  | act la idx => cases r with
    | ok v => exact .inr ⟨la, v, rfl, rfl⟩
    | _ => exact .inl rfl
  | _ => exact .inl rfl

/-- the two call sites of `error_recovery` -/
def EnterCtx (c : Cfg) : Phase → Option (Tok × Term) → Bool → Prop
  | .act la idx, la', fe => la' = some (la, idx) ∧ fe = false ∧ ∃ top rest a, c.states = top :: rest ∧
      T.actionAt top idx = some a ∧ asShift a = none ∧ asReduce a = none
  | .eof, la', fe => la' = none ∧ fe = true ∧ ∃ top rest a, c.states = top :: rest ∧
      T.eofActionAt top = some a ∧ asReduce a = none
  | _, _, _ => False

/-- the error `unrecognized_token_error` builds -/
def mkErr (c : Cfg) (la : Option (Tok × Term)) (ex : List Term) : PErr :=
  match la with
  | some (t, _) => .unrecognizedToken t ex
  | none => .unrecognizedEof c.lastLoc ex

/-- the phase `parse` continues in after `next_token` answered -/
def pullK : NextToken → Phase
  | .found t i => .act t i
  | .eof => .eof
  | .done r => .done r

/-- the phase the drop loop of `error_recovery` continues in after `next_token` answered -/
def dropK (e : PErr) (dropped : List Tok) (sl : Nat) (fe : Bool) : NextToken → Phase
  | .found t i => .recFind (some (t, i)) e dropped sl fe
  | .eof => .recFind none e dropped sl fe
  | .done r => .done r

/-- One step of the driver, read as a relation. It is an over-approximation: the panic sites are collapsed
    (`panic` and the panic cases of `ReduceSpec`, `PushSpec`, `NextSpec` keep little more than that the tag is
    not the fuel stop), and the table lookups are recorded on the other branches only. -/
inductive Step : Cfg → Phase → Cfg → Phase → Prop
  | done (c : Cfg) (r : Outcome) : Step c (.done r) c (.done r)
  | panic (c : Cfg) (ph : Phase) (tag : PanicTag) (h : phDone ph = false) : Step c ph c (.done (.panic tag))
  | pull (c c' : Cfg) (nt : NextToken) (h : NextSpec T af c c' nt) : Step c .pull c' (pullK nt)
  | shift (c : Cfg) (la : Tok) (idx top : Nat) (rest : List Nat) (a : Int) (target : Nat)
      (hs : c.states = top :: rest) (ha : T.actionAt top idx = some a) (hsh : asShift a = some target) :
      Step c (.act la idx)
        { c with states := target :: c.states, symbols := (la.l, Tree.leaf la, la.r) :: c.symbols } .pull
  | redCont (c : Cfg) (ph : Phase) (p : Nat) (ls : Option Int) (c' : Cfg) (hctx : RedCtx T c ph p ls)
      (h : ReduceSpec T failAt startLoc c p ls (.continue_ c')) : Step c ph c' ph
  | redFin (c : Cfg) (ph : Phase) (p : Nat) (ls : Option Int) (c' : Cfg) (r : Outcome)
      (hctx : RedCtx T c ph p ls) (h : ReduceSpec T failAt startLoc c p ls (.finished c' r)) :
      Step c ph c' (.done (finOutcome ph r))
  | enterNoRec (c : Cfg) (ph : Phase) (la : Option (Tok × Term)) (fe : Bool) (ex : List Term)
      (hctx : EnterCtx T c ph la fe) (hex : expected T af c.states = .ok ex)
      (hr : T.usesRecovery = false) : Step c ph c (.done (.err (mkErr c la ex)))
  | enterRec (c : Cfg) (ph : Phase) (la : Option (Tok × Term)) (fe : Bool) (ex : List Term)
      (hctx : EnterCtx T c ph la fe) (hex : expected T af c.states = .ok ex)
      (hr : T.usesRecovery = true) : Step c ph c (.recReduce la (mkErr c la ex) fe)
  | toFind (c : Cfg) (la : Option (Tok × Term)) (e : PErr) (fe : Bool) (top : Nat) (rest : List Nat) (a : Int)
      (hs : c.states = top :: rest) (ha : T.errorActionAt top = some a) (hnr : asReduce a = none) :
      Step c (.recReduce la e fe) c (.recFind la e [] c.states.length fe)
  | push (c : Cfg) (la : Option (Tok × Term)) (e : PErr) (dropped : List Tok) (sl : Nat) (fe : Bool) (top : Nat)
      (hf : findState T af (la.map (·.2)) sl c.states sl = .ok (some top)) (c' : Cfg) (ph' : Phase)
      (h : PushSpec T startLoc c la e dropped sl top fe c' ph') :
      Step c (.recFind la e dropped sl fe) c' ph'
  | giveUp (c : Cfg) (e : PErr) (dropped : List Tok) (sl : Nat) (fe : Bool)
      (hf : findState T af none sl c.states sl = .ok none) :
      Step c (.recFind none e dropped sl fe) c (.done (.err e))
  | drop (c : Cfg) (t : Tok) (i : Term) (e : PErr) (dropped : List Tok) (sl : Nat) (fe : Bool)
      (hf : findState T af (some i) sl c.states sl = .ok none) (c' : Cfg) (nt : NextToken)
      (h : NextSpec T af c c' nt) :
      Step c (.recFind (some (t, i)) e dropped sl fe) c' (dropK e (dropped ++ [t]) sl fe nt)

theorem unrecognizedError_eq (c : Cfg) (la : Option (Tok × Term)) :
    unrecognizedError T af c (la.map (·.1)) =
      match expected T af c.states with
      | .error e => .error e
      | .ok ex => .ok (mkErr c la ex) := by
  unfold unrecognizedError mkErr
  cases expected T af c.states with
  | error e => rfl
  | ok ex => cases la <;> rfl

theorem enterRecovery_spec (c : Cfg) (ph : Phase) (la : Option (Tok × Term)) (fe : Bool)
    (hctx : EnterCtx T c ph la fe) (hph : phDone ph = false) :
    Step T af failAt startLoc c ph (enterRecovery T af c la fe).1 (enterRecovery T af c la fe).2 := by
  unfold enterRecovery
  rw [unrecognizedError_eq]
  cases hex : expected T af c.states with
  | error e => exact .panic c ph e hph
  | ok ex =>
    simp only
    cases hr : T.usesRecovery with
    | false => exact .enterNoRec c ph la fe ex hctx hex hr
    | true => exact .enterRec c ph la fe ex hctx hex hr

theorem step_pull_eq (af : Nat) (c : Cfg) :
    step T af failAt startLoc c .pull = ((nextToken T af c).1, pullK (nextToken T af c).2) := by
  simp only [step]
  generalize nextToken T af c = x
  obtain ⟨c', nt⟩ := x
  cases nt <;> rfl

/-- A phase whose action is a reduction steps as `__reduce` answers; `x` is what `step` computes from that answer. -/
theorem Step.of_reduce {T : Tables} {af : Nat} {failAt : Option Nat} {startLoc : Int} {c : Cfg} {ph : Phase}
    {p : Nat} {ls : Option Int} {x : Cfg × Phase} (hctx : RedCtx T c ph p ls)
    (hc : ∀ c', reduce T failAt startLoc c p ls = .continue_ c' → x = (c', ph))
    (hf : ∀ c' r, reduce T failAt startLoc c p ls = .finished c' r → x = (c', .done (finOutcome ph r))) :
    Step T af failAt startLoc c ph x.1 x.2 := by
  have hsp := reduce_spec T failAt startLoc c p ls
  cases hres : reduce T failAt startLoc c p ls with
  | continue_ c' =>
    rw [hc c' hres]
    exact .redCont c ph p ls c' hctx (hres ▸ hsp)
  | finished c' r =>
    rw [hf c' r hres]
    exact .redFin c ph p ls c' r hctx (hres ▸ hsp)

theorem step_spec (c : Cfg) (ph : Phase) :
    Step T af failAt startLoc c ph (step T af failAt startLoc c ph).1 (step T af failAt startLoc c ph).2 := by
  cases ph with
  | done r => exact .done c r
  | pull =>
    rw [step_pull_eq]
    exact .pull c _ _ (nextToken_spec T af c)
  | act la idx =>
    unfold step
    cases hs : c.states with
    | nil => exact .panic c _ _ rfl
    | cons top rest =>
      simp only
      cases ha : T.actionAt top idx with
      | none => exact .panic c _ _ rfl
      | some a =>
        simp only
        cases hsh : asShift a with
        | some target =>
          simp only
          exact hs ▸ .shift c la idx top rest a target hs ha hsh
        | none =>
          simp only
          cases hr : asReduce a with
          | some p =>
            simp only
            refine .of_reduce ⟨rfl, top, rest, a, hs, ha, hsh, hr⟩ (fun _ h => h ▸ rfl) fun _ r h => h ▸ ?_
            cases r <;> rfl
          | none =>
            exact enterRecovery_spec T af failAt startLoc c _ _ _ ⟨rfl, rfl, top, rest, a, hs, ha, hsh, hr⟩ rfl
  | eof =>
    unfold step
    cases hs : c.states with
    | nil => exact .panic c _ _ rfl
    | cons top rest =>
      simp only
      cases ha : T.eofActionAt top with
      | none => exact .panic c _ _ rfl
      | some a =>
        simp only
        cases hr : asReduce a with
        | some p =>
          simp only
          exact .of_reduce ⟨rfl, top, rest, a, hs, ha, hr⟩ (fun _ h => h ▸ rfl) fun _ _ h => h ▸ rfl
        | none =>
          exact enterRecovery_spec T af failAt startLoc c _ _ _ ⟨rfl, rfl, top, rest, a, hs, ha, hr⟩ rfl
  | recReduce la e fe =>
    unfold step
    cases hs : c.states with
    | nil => exact .panic c _ _ rfl
    | cons top rest =>
      simp only
      cases ha : T.errorActionAt top with
      | none => exact .panic c _ _ rfl
      | some a =>
        simp only
        cases hr : asReduce a with
        | some p =>
          simp only
          exact .of_reduce ⟨rfl, top, rest, a, hs, ha, hr⟩ (fun _ h => h ▸ rfl) fun _ _ h => h ▸ rfl
        | none =>
          exact hs ▸ .toFind c la e fe top rest a hs ha hr
  | recFind la e dropped sl fe =>
    simp only [step]
    cases hf : findState T af (la.map (·.2)) sl c.states sl with
    | error tag => exact .panic c _ _ rfl
    | ok o =>
      cases o with
      | some top =>
        simp only
        exact .push c la e dropped sl fe top hf _ _ (pushRecovery_spec T startLoc c la e dropped sl top fe)
      | none =>
        simp only
        cases la with
        | none => exact .giveUp c e dropped sl fe hf
        | some ti =>
          obtain ⟨t, i⟩ := ti
          simp only
          have := nextToken_spec T af c
          generalize nextToken T af c = x at this ⊢
          obtain ⟨c', nt⟩ := x
          cases nt <;> exact .drop c t i e dropped sl fe hf _ _ this

theorem step_spec_of {T : Tables} {af : Nat} {failAt : Option Nat} {startLoc : Int} {c c' : Cfg} {ph ph' : Phase}
    (h : step T af failAt startLoc c ph = (c', ph')) :
    Step T af failAt startLoc c ph c' ph' := by
  have := step_spec T af failAt startLoc c ph
  rwa [h] at this

theorem Step.from_done {T : Tables} {af : Nat} {failAt : Option Nat} {startLoc : Int} {c c' : Cfg} {r : Outcome}
    {ph' : Phase} (hs : Step T af failAt startLoc c (.done r) c' ph') : c' = c ∧ ph' = .done r := by
  cases hs with
  | done r => exact ⟨rfl, rfl⟩
  | panic _ tag hd => cases hd
  | redCont _ p ls _ hctx hr => exact hctx.elim
  | redFin _ p ls _ r hctx hr => exact hctx.elim
  | enterNoRec _ la fe ex hctx hex hrec => exact hctx.elim
  | enterRec _ la fe ex hctx hex hrec => exact hctx.elim

/-- the ways a step from a live phase ends the run with `r` -/
inductive DoneStep (c : Cfg) (ph : Phase) (c' : Cfg) (r : Outcome) : Prop
  | panic (tag : PanicTag) (hr : r = .panic tag)
  | next (hn : NextSpec T af c c' (.done r))
      (hph : ph = .pull ∨ ∃ t i e d sl fe, ph = .recFind (some (t, i)) e d sl fe)
  | red (p : Nat) (ls : Option Int) (r0 : Outcome) (hctx : RedCtx T c ph p ls)
      (h : ReduceSpec T failAt startLoc c p ls (.finished c' r0)) (hr : r = finOutcome ph r0)
  | noRec (la : Option (Tok × Term)) (fe : Bool) (ex : List Term) (hctx : EnterCtx T c ph la fe)
      (hex : expected T af c.states = .ok ex) (hrec : T.usesRecovery = false) (hc : c' = c)
      (hr : r = .err (mkErr c la ex))
  | giveUp (e : PErr) (d : List Tok) (sl : Nat) (fe : Bool) (hph : ph = .recFind none e d sl fe)
      (hc : c' = c) (hr : r = .err e)

theorem Step.done_cases {T : Tables} {af : Nat} {failAt : Option Nat} {startLoc : Int} {c c' : Cfg} {ph : Phase}
    {r : Outcome} (hs : Step T af failAt startLoc c ph c' (.done r)) (hnd : phDone ph = false) :
    DoneStep T af failAt startLoc c ph c' r := by
  generalize hph' : Phase.done r = ph' at hs
  cases hs with
  | done r => cases hnd
  | panic _ tag hd => cases hph'; exact .panic tag rfl
  | pull _ nt hn =>
    cases nt with
    | done r' => cases hph'; exact .next hn (.inl rfl)
    | _ => cases hph'
  | redCont _ p ls _ hctx hr => subst hph'; cases hnd
  | redFin _ p ls _ r0 hctx hr => cases hph'; exact .red p ls r0 hctx hr rfl
  | enterNoRec _ la fe ex hctx hex hrec => cases hph'; exact .noRec la fe ex hctx hex hrec rfl rfl
  | push la e dropped sl fe top hf _ _ hp =>
    cases hp with
    | panic tag htag => cases hph'; exact .panic tag rfl
    | ok l r hl hr rs rest hrs a ha es hes =>
      -- `afterPh la fe` is final only for a lookahead found by `parse_eof`
      rcases la with _ | ⟨t, i⟩
      · cases fe <;> cases hph'
      · cases fe with
        | false => cases hph'
        | true => cases hph'; exact .panic _ rfl
  | giveUp e dropped sl fe hf => cases hph'; exact .giveUp e dropped sl fe rfl rfl rfl
  | drop t i e dropped sl fe hf _ nt hn =>
    cases nt with
    | done r' => cases hph'; exact .next hn (.inr ⟨t, i, e, dropped, sl, fe, rfl⟩)
    | _ => cases hph'
  | _ => cases hph'

end LalrpopModel.LR.Generic
