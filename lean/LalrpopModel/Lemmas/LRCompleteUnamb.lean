import LalrpopModel.Lemmas.LRComplete
/-!
LR completeness: relabelling the leaves of a derivation tree with other tokens of the same
kinds (`Tree.relabel`, `relabel_spec`) turns "same kinds" into "same input", and `shape` keeps
yield, root and well-formedness (`wf_shape_iff`); so `Derives` gives acceptance of every token list
with the derived kinds (`derives_ok_run`). The unambiguity statements, which add determinism of the
machine (`run_unique`) to this, are in `Props/LRCompleteThms.lean`.
-/
namespace LalrpopModel.LR

mutual
/-- replace the leaf tokens of a tree, left to right, by the tokens `w` -/
def Tree.relabel : Tree → List Tok → Tree
  | .leaf a, w => .leaf (w.headD a)
  | .node p l r ks, w => .node p l r (ks.relabel w)
  | .err e d, _ => .err e d
def Forest.relabel : Forest → List Tok → Forest
  | .nil, _ => .nil
  | .cons t ts, w => .cons (t.relabel (w.take t.yield.length)) (ts.relabel (w.drop t.yield.length))
end

theorem kinds_split {w u v : List Tok} (h : w.map (·.kind) = (u ++ v).map (·.kind)) :
    (w.take u.length).map (·.kind) = u.map (·.kind) ∧ (w.drop u.length).map (·.kind) = v.map (·.kind) := by
  rw [List.map_append] at h
  constructor
  · rw [List.map_take, h, List.take_left' (by simp)]
  · rw [List.map_drop, h, List.drop_left' (by simp)]

mutual
theorem Tree.relabel_spec {G : Grammar} :
    (t : Tree) → (w : List Tok) → w.map (·.kind) = t.yield.map (·.kind) →
      (t.relabel w).yield = w ∧ (t.relabel w).skeleton = t.skeleton ∧
      (t.relabel w).root G none = t.root G none ∧ (Tree.WF G none t → Tree.WF G none (t.relabel w))
  | .leaf a => by
    intro w h
    cases w with
    | nil => simp [Tree.yield] at h
    | cons b w =>
      cases w with
      | cons _ _ => simp [Tree.yield] at h
      | nil =>
        simp [Tree.yield] at h
        refine ⟨by simp [Tree.relabel, Tree.yield], by simp [Tree.relabel, Tree.skeleton, Tok.erase, h],
          by simp [Tree.relabel, Tree.root, h], ?_⟩
        intro hwf
        cases hwf with
        | leaf _ k hk => exact Tree.WF.leaf b k (h ▸ hk)
  | .node p l r ks => by
    intro w h
    obtain ⟨h1, h2, h3⟩ := Forest.relabel_spec (G := G) ks w (by simpa [Tree.yield] using h)
    refine ⟨by simpa [Tree.relabel, Tree.yield] using h1, by simp [Tree.relabel, Tree.skeleton, h2],
      by simp [Tree.relabel, Tree.root], ?_⟩
    intro hwf
    cases hwf with
    | node _ _ _ pr _ hp hks => exact Tree.WF.node p l r pr _ hp (h3 _ hks)
  | .err e d => by
    intro w h
    have : w = [] := by simpa [Tree.yield] using h
    subst this
    refine ⟨by simp [Tree.relabel, Tree.yield], by simp [Tree.relabel], by simp [Tree.relabel], ?_⟩
    intro hwf
    cases hwf with
    | err _ _ k hk => cases hk
theorem Forest.relabel_spec {G : Grammar} :
    (fs : Forest) → (w : List Tok) → w.map (·.kind) = fs.yield.map (·.kind) →
      (fs.relabel w).yield = w ∧ (fs.relabel w).skeleton = fs.skeleton ∧
      (∀ β, Forest.WF G none fs β → Forest.WF G none (fs.relabel w) β)
  | .nil => by
    intro w h
    have : w = [] := by simpa [Forest.yield] using h
    subst this
    refine ⟨by simp [Forest.relabel, Forest.yield], by simp [Forest.relabel], ?_⟩
    intro β hwf
    simpa [Forest.relabel] using hwf
  | .cons t ts => by
    intro w h
    obtain ⟨hk1, hk2⟩ := kinds_split (by simpa [Forest.yield] using h)
    obtain ⟨a1, a2, a3, a4⟩ := Tree.relabel_spec (G := G) t _ hk1
    obtain ⟨b1, b2, b3⟩ := Forest.relabel_spec (G := G) ts _ hk2
    refine ⟨by simp [Forest.relabel, Forest.yield, a1, b1], by simp [Forest.relabel, Forest.skeleton, a2, b2], ?_⟩
    intro β hwf
    cases hwf with
    | cons _ _ X Xs hwt hroot hwts =>
      exact Forest.WF.cons _ _ X Xs (a4 hwt) (a3 ▸ hroot) (b3 _ hwts)
end

mutual
theorem Tree.yield_shape : (t : Tree) → t.shape.yield = t.yield
  | .leaf _ => rfl
  | .node _ _ _ ks => by simp [Tree.shape, Tree.yield, Forest.yield_shape ks]
  | .err _ _ => rfl
theorem Forest.yield_shape : (f : Forest) → f.shape.yield = f.yield
  | .nil => rfl
  | .cons t ts => by simp [Forest.shape, Forest.yield, Tree.yield_shape t, Forest.yield_shape ts]
end

theorem Tree.root_shape (G : Grammar) (e : Option Term) (t : Tree) : t.shape.root G e = t.root G e := by
  cases t <;> rfl

mutual
theorem Tree.wf_shape_iff {G : Grammar} {e : Option Term} :
    (t : Tree) → (Tree.WF G e t.shape ↔ Tree.WF G e t)
  | .leaf _ => Iff.rfl
  | .node p l r ks => by
    constructor
    · intro h
      simp only [Tree.shape] at h
      cases h with
      | node _ _ _ pr _ hp hks => exact Tree.WF.node p l r pr ks hp ((Forest.wf_shape_iff ks _).mp hks)
    · intro h
      cases h with
      | node _ _ _ pr _ hp hks => exact Tree.WF.node p 0 0 pr _ hp ((Forest.wf_shape_iff ks _).mpr hks)
  | .err _ _ => Iff.rfl
theorem Forest.wf_shape_iff {G : Grammar} {e : Option Term} :
    (f : Forest) → (β : List Sym) → (Forest.WF G e f.shape β ↔ Forest.WF G e f β)
  | .nil, _ => Iff.rfl
  | .cons t ts, β => by
    constructor
    · intro h
      simp only [Forest.shape] at h
      cases h with
      | cons _ _ X Xs h1 h2 h3 =>
        exact Forest.WF.cons t ts X Xs ((Tree.wf_shape_iff t).mp h1) (Tree.root_shape G e t ▸ h2)
          ((Forest.wf_shape_iff ts _).mp h3)
    · intro h
      cases h with
      | cons _ _ X Xs h1 h2 h3 =>
        exact Forest.WF.cons _ _ X Xs ((Tree.wf_shape_iff t).mpr h1) ((Tree.root_shape G e t).symm ▸ h2)
          ((Forest.wf_shape_iff ts _).mpr h3)
end

section
variable {G : Grammar} {T : Tables} {ann : Ann}

/-- every token list whose kinds are derivable from the start symbol is accepted, with a
    well-formed value over exactly these tokens -/
theorem derives_ok_run (V : Valid G T ann) (af : Nat) (failAt : Option Nat) (hf : NoFail T failAt) (startLoc : Int) (S : NT) (hS : G.startSym = some S)
    (w : List Term) (hd : Derives G S w) (toks : List Tok) (hk : toks.map (·.kind) = w.map some) :
    ∃ n c v, run T af failAt startLoc n (init startLoc (toks.map Item.tok)) .pull = (c, .done (.ok v)) ∧
      Tree.WF G none v ∧ v.root G none = some (Sym.n S) ∧ v.yield = toks ∧
      c.pulled = toks.length + 1 := by
  obtain ⟨t, hwf, hroot, hy⟩ := hd
  obtain ⟨a1, a2, a3, a4⟩ := Tree.relabel_spec (G := G) t toks (by rw [hk, hy])
  obtain ⟨n, c, v, hrun, hsh, hpu, _⟩ :=
    drive_complete_run V af failAt hf startLoc (t.relabel toks) S hS (a4 hwf) (a3 ▸ hroot)
  rw [a1] at hrun hpu
  refine ⟨n, c, v, hrun, (Tree.wf_shape_iff v).mp (hsh ▸ (Tree.wf_shape_iff _).mpr (a4 hwf)), ?_, ?_, hpu⟩
  · rw [← Tree.root_shape, hsh, Tree.root_shape, a3]
    exact hroot
  · rw [← Tree.yield_shape, hsh, Tree.yield_shape, a1]

end

end LalrpopModel.LR
