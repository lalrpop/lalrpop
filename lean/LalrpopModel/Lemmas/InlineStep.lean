import LalrpopModel.Lemmas.InlineCross
import LalrpopModel.Lemmas.InlineSem
/-!
Structure of the output of `inline_nt` (which productions / action definitions the new grammar
has), derived from `inlineSyms_spec` through the three loops.
-/
set_option linter.unusedSectionVars false

namespace LalrpopModel.Inline

variable {N T X : Type} [DecidableEq N] [DecidableEq T]

/-- action `idx` of `acts` is the composed action for host action `a` and choice `c` -/
def IsInlineOf (acts : List (Defn N T X)) (idx a : Nat) (c : List (InlinedSymbol N T)) : Prop :=
  ∃ d, acts[idx]? = some d ∧ d.kind = .inline a c

namespace IsInlineOf

theorem lt {acts : List (Defn N T X)} {idx a : Nat} {c : List (InlinedSymbol N T)}
    (h : IsInlineOf acts idx a c) : idx < acts.length :=
  let ⟨_, hd, _⟩ := h
  (List.getElem?_eq_some_iff.mp hd).1

theorem append {acts : List (Defn N T X)} {idx a : Nat} {c : List (InlinedSymbol N T)}
    (h : IsInlineOf acts idx a c) (more : List (Defn N T X)) : IsInlineOf (acts ++ more) idx a c :=
  let ⟨d, hd, hk⟩ := h
  ⟨d, by rw [List.getElem?_append_left h.lt, hd], hk⟩

end IsInlineOf

theorem getElem?_append_add {α : Type} (l₁ l₂ : List α) (i : Nat) :
    (l₁ ++ l₂)[l₁.length + i]? = l₂[i]? := by
  rw [List.getElem?_append_right (Nat.le_add_right ..), Nat.add_sub_cancel_left]

/-- the action definitions appended for the choices `cs` sit where the numbering of the new
    productions says: `l₁` are the old definitions, `l₂` those appended earlier in the loop -/
theorem isInlineOf_emitted {l₁ l₂ more : List (Defn N T X)}
    {mk : List (InlinedSymbol N T) → Defn N T X} {a : Nat}
    (hmk : ∀ c, (mk c).kind = .inline a c) {cs : List (List (InlinedSymbol N T))} {i : Nat}
    {c : List (InlinedSymbol N T)} (h : cs[i]? = some c) :
    IsInlineOf (l₁ ++ (l₂ ++ (cs.map mk ++ more))) (l₁.length + l₂.length + i) a c := by
  refine ⟨mk c, ?_, hmk c⟩
  have hi : i < (cs.map mk).length := by
    rw [List.length_map]
    exact (List.getElem?_eq_some_iff.mp h).1
  rw [Nat.add_assoc, getElem?_append_add, getElem?_append_add, List.getElem?_append_left hi,
    List.getElem?_map, h]
  rfl

/-- relation between the productions `ps` of a nonterminal before and `ps'` after inlining `inl`
    (whose productions are `inlProds`); `n0` = number of actions before, `acts'` = actions after -/
structure StepRel (inl : N) (inlProds : List (Production N T)) (n0 : Nat)
    (acts' : List (Defn N T X)) (ps ps' : List (Production N T)) : Prop where
  keep : ∀ p ∈ ps, Symbol.nt inl ∉ p.symbols → p ∈ ps'
  new : ∀ p ∈ ps, Symbol.nt inl ∈ p.symbols → ∀ c ∈ choices inl inlProds p.symbols,
    ∃ idx, n0 ≤ idx ∧
      ({ nonterminal := p.nonterminal, symbols := c.flatMap InlinedSymbol.flat, action := idx } :
        Production N T) ∈ ps' ∧ IsInlineOf acts' idx p.action c
  back : ∀ p' ∈ ps', (p' ∈ ps ∧ Symbol.nt inl ∉ p'.symbols) ∨
    ∃ p ∈ ps, Symbol.nt inl ∈ p.symbols ∧ ∃ c ∈ choices inl inlProds p.symbols,
      p'.nonterminal = p.nonterminal ∧ p'.symbols = c.flatMap InlinedSymbol.flat ∧ n0 ≤ p'.action ∧
      IsInlineOf acts' p'.action p.action c

namespace StepRel

variable {inl : N} {inlProds : List (Production N T)} {n0 : Nat} {acts : List (Defn N T X)}

theorem nil : StepRel inl inlProds n0 acts [] [] :=
  ⟨fun _ h => absurd h List.not_mem_nil, fun _ h => absurd h List.not_mem_nil,
    fun _ h => absurd h List.not_mem_nil⟩

theorem mono {ps ps' : List (Production N T)} (h : StepRel inl inlProds n0 acts ps ps')
    (more : List (Defn N T X)) : StepRel inl inlProds n0 (acts ++ more) ps ps' := by
  refine ⟨h.keep, fun p hp hs c hc => ?_, fun p' hp' => ?_⟩
  · obtain ⟨idx, h1, h2, h3⟩ := h.new p hp hs c hc
    exact ⟨idx, h1, h2, h3.append more⟩
  · rcases h.back p' hp' with l | ⟨p, hp, hs, c, hc, h2, h3, h4, h5⟩
    · exact .inl l
    · exact .inr ⟨p, hp, hs, c, hc, h2, h3, h4, h5.append more⟩

theorem append {ps₁ ps₂ P₁ P₂ : List (Production N T)} (h₁ : StepRel inl inlProds n0 acts ps₁ P₁)
    (h₂ : StepRel inl inlProds n0 acts ps₂ P₂) :
    StepRel inl inlProds n0 acts (ps₁ ++ ps₂) (P₁ ++ P₂) := by
  constructor
  · intro p hp hs
    rcases List.mem_append.mp hp with h | h
    · exact List.mem_append_left _ (h₁.keep p h hs)
    · exact List.mem_append_right _ (h₂.keep p h hs)
  · intro p hp hs c hc
    rcases List.mem_append.mp hp with h | h
    · obtain ⟨idx, a, b, d⟩ := h₁.new p h hs c hc
      exact ⟨idx, a, List.mem_append_left _ b, d⟩
    · obtain ⟨idx, a, b, d⟩ := h₂.new p h hs c hc
      exact ⟨idx, a, List.mem_append_right _ b, d⟩
  · intro p' hp'
    rcases List.mem_append.mp hp' with h | h
    · rcases h₁.back p' h with ⟨a, b⟩ | ⟨p, hp, r⟩
      · exact .inl ⟨List.mem_append_left _ a, b⟩
      · exact .inr ⟨p, List.mem_append_left _ hp, r⟩
    · rcases h₂.back p' h with ⟨a, b⟩ | ⟨p, hp, r⟩
      · exact .inl ⟨List.mem_append_right _ a, b⟩
      · exact .inr ⟨p, List.mem_append_right _ hp, r⟩

theorem one_kept {p : Production N T} (hs : Symbol.nt inl ∉ p.symbols) :
    StepRel inl inlProds n0 acts [p] [p] where
  keep := fun _ hq _ => hq
  new := fun _ hq hqs => absurd (List.mem_singleton.mp hq ▸ hqs) hs
  back := fun _ hq => .inl ⟨hq, List.mem_singleton.mp hq ▸ hs⟩

/-- a production with `inl` is replaced by its expansions, numbered from `b`, provided the
    actions from `b` on are the composed ones -/
theorem one_expanded {p : Production N T} (hs : Symbol.nt inl ∈ p.symbols) {b : Nat} (hb : n0 ≤ b)
    (hacts : ∀ i c, (choices inl inlProds p.symbols)[i]? = some c →
      IsInlineOf acts (b + i) p.action c) :
    StepRel inl inlProds n0 acts [p] (numbered p [] b (choices inl inlProds p.symbols)) where
  keep := fun _ hq hqs => absurd hs (List.mem_singleton.mp hq ▸ hqs)
  new := fun q hq _ c hc => by
    cases List.mem_singleton.mp hq
    obtain ⟨i, hi⟩ := List.getElem?_of_mem hc
    exact ⟨b + i, Nat.le_add_right_of_le hb, mem_numbered.mpr ⟨i, c, hi, rfl⟩, hacts i c hi⟩
  back := fun p' hp' => by
    obtain ⟨i, c, hi, rfl⟩ := mem_numbered.mp hp'
    exact .inr ⟨p, List.mem_singleton_self p, hs, c, List.mem_of_getElem? hi, rfl, rfl,
      Nat.le_add_right_of_le hb, hacts i c hi⟩

end StepRel

/-- the loop over the productions of one nonterminal -/
theorem inlineProds_spec (defs : List (Defn N T X)) (inl : N) (inlProds : List (Production N T))
    (n0 : Nat) (hn0 : n0 ≤ defs.length)
    (hInl : ∀ ip ∈ inlProds, ∃ d, defs[ip.action]? = some d)
    (ps : List (Production N T)) (hPs : ∀ p ∈ ps, ∃ d, defs[p.action]? = some d)
    (out : Out N T X) :
    ∃ P D, inlineProds defs inl inlProds ps out = some { prods := out.prods ++ P, defns := out.defns ++ D } ∧
      StepRel inl inlProds n0 (defs ++ (out.defns ++ D)) ps P := by
  induction ps generalizing out with
  | nil => exact ⟨[], [], by rw [inlineProds, List.append_nil, List.append_nil], .nil⟩
  | cons p ps ih =>
    have hPs' : ∀ q ∈ ps, ∃ d, defs[q.action]? = some d := fun q hq => hPs q (List.mem_cons_of_mem _ hq)
    by_cases hs : Symbol.nt inl ∈ p.symbols
    · obtain ⟨intoDef, hInto⟩ := hPs p (List.mem_cons_self ..)
      have hspec := inlineSyms_top defs inl inlProds p intoDef hInto hInl out
      obtain ⟨P1, D1, h1, hrel⟩ := ih hPs'
        (emit defs p [] (fun c => mkDefn intoDef p (fallibleCount defs c) c) out
          (choices inl inlProds p.symbols))
      simp only [emit, List.append_assoc] at hrel
      refine ⟨_, _, ?_, StepRel.append (ps₁ := [p]) (StepRel.one_expanded hs
        (Nat.le_add_right_of_le hn0) fun i c hi => isInlineOf_emitted (fun _ => rfl) hi) hrel⟩
      simp only [inlineProds, hs, not_true_eq_false, if_false, hspec, h1]
      simp only [emit, List.append_assoc]
    · obtain ⟨P1, D1, h1, hrel⟩ := ih hPs' { out with prods := out.prods ++ [p] }
      refine ⟨p :: P1, D1, ?_, StepRel.append (ps₁ := [p]) (StepRel.one_kept hs) hrel⟩
      simp only [inlineProds, hs, not_false_eq_true, if_true, h1, List.append_assoc,
        List.singleton_append]

/-- pointwise relation of two lists (core has no `Forall₂`) -/
inductive Rel2 {α β : Type} (R : α → β → Prop) : List α → List β → Prop where
  | nil : Rel2 R [] []
  | cons {a b as bs} : R a b → Rel2 R as bs → Rel2 R (a :: as) (b :: bs)

/-- entries before/after: same name, payload, attribute; productions related by `StepRel` -/
def NtRel (inl : N) (inlProds : List (Production N T)) (n0 : Nat) (acts' : List (Defn N T X))
    (d d' : NtData N T X) : Prop :=
  d'.name = d.name ∧ d'.extra = d.extra ∧ d'.isInline = d.isInline ∧
    StepRel inl inlProds n0 acts' d.productions d'.productions

/-- the loop over the nonterminals -/
theorem inlineNts_spec (inl : N) (inlProds : List (Production N T)) (n0 : Nat)
    (ds : List (NtData N T X)) (defs : List (Defn N T X)) (hn0 : n0 ≤ defs.length)
    (hInl : ∀ ip ∈ inlProds, ip.action < n0)
    (hPs : ∀ d ∈ ds, ∀ p ∈ d.productions, p.action < n0) :
    ∃ ds' extra, inlineNts inl inlProds ds defs = some (ds', defs ++ extra) ∧
      Rel2 (NtRel inl inlProds n0 (defs ++ extra)) ds ds' := by
  induction ds generalizing defs with
  | nil => exact ⟨[], [], by rw [inlineNts, List.append_nil], .nil⟩
  | cons d ds ih =>
    have look : ∀ a, a < n0 → ∃ x, defs[a]? = some x := fun a ha =>
      ⟨_, List.getElem?_eq_getElem (Nat.lt_of_lt_of_le ha hn0)⟩
    obtain ⟨P, D, h1, hrel⟩ := inlineProds_spec defs inl inlProds n0 hn0
      (fun ip hip => look _ (hInl ip hip)) d.productions
      (fun p hp => look _ (hPs d (List.mem_cons_self ..) p hp)) { prods := [], defns := [] }
    obtain ⟨ds', extra, h2, hall⟩ := ih (defs ++ D)
      (by rw [List.length_append]; exact Nat.le_add_right_of_le hn0)
      (fun d' hd' => hPs d' (List.mem_cons_of_mem _ hd'))
    rw [List.append_assoc] at h2 hall
    refine ⟨{ d with productions := P } :: ds', D ++ extra, ?_, .cons ⟨rfl, rfl, rfl, ?_⟩ hall⟩
    · simp only [inlineNts, h1, h2, List.nil_append]
    · have := hrel.mono extra
      rwa [List.append_assoc] at this

/-- well-formedness of a lowered grammar: action indices in range, names distinct (the map is a
    BTreeMap), productions filed under their own nonterminal -/
structure WF (g : Grammar N T X) : Prop where
  actions_in_range : ∀ d ∈ g.nonterminals, ∀ p ∈ d.productions, p.action < g.actions.length
  names_nodup : (g.nonterminals.map (·.name)).Nodup

theorem productionsFor_cons (d : NtData N T X) (ds : List (NtData N T X)) (a : List (Defn N T X))
    (n : N) :
    (⟨d :: ds, a⟩ : Grammar N T X).productionsFor n =
      if d.name = n then d.productions else (⟨ds, a⟩ : Grammar N T X).productionsFor n := by
  unfold Grammar.productionsFor
  rw [List.find?_cons]
  by_cases h : d.name = n
  · rw [if_pos h, decide_eq_true h]
  · rw [if_neg h, decide_eq_false h]

theorem productionsFor_mem {g : Grammar N T X} {n : N} {p : Production N T}
    (h : p ∈ g.productionsFor n) : ∃ d ∈ g.nonterminals, d.name = n ∧ p ∈ d.productions := by
  unfold Grammar.productionsFor at h
  split at h
  · rename_i d hd
    have hn := List.find?_some hd
    exact ⟨d, List.mem_of_find?_eq_some hd, of_decide_eq_true hn, h⟩
  · cases h

theorem rel2_productionsFor {inl : N} {inlProds : List (Production N T)} {n0 : Nat}
    {acts : List (Defn N T X)} {g g' : Grammar N T X}
    (h : Rel2 (NtRel inl inlProds n0 acts) g.nonterminals g'.nonterminals) (n : N) :
    StepRel inl inlProds n0 acts (g.productionsFor n) (g'.productionsFor n) := by
  obtain ⟨ds, a⟩ := g
  obtain ⟨ds', a'⟩ := g'
  dsimp only at h
  induction h with
  | nil => exact .nil
  | cons hd _ ih =>
    rw [productionsFor_cons, productionsFor_cons, hd.1]
    split
    · exact hd.2.2.2
    · exact ih

/-- **structure of `inline_nt`**: for a well-formed grammar the pass does not panic; it appends
    action definitions; every nonterminal keeps name/payload; its productions are related to the
    old ones by `StepRel` (kept if `inl` does not occur, otherwise replaced by one production per
    choice, whose action is the composed action). -/
theorem inlineNt_spec (g : Grammar N T X) (hwf : WF g) (inl : N) :
    ∃ g' extra, inlineNt g inl = some g' ∧ g'.actions = g.actions ++ extra ∧
      Rel2 (NtRel inl (g.productionsFor inl) g.actions.length g'.actions)
        g.nonterminals g'.nonterminals := by
  have hInl : ∀ ip ∈ g.productionsFor inl, ip.action < g.actions.length := by
    intro ip hip
    obtain ⟨d, hd, _, hp⟩ := productionsFor_mem hip
    exact hwf.actions_in_range d hd ip hp
  obtain ⟨ds', extra, h1, h2⟩ := inlineNts_spec inl (g.productionsFor inl) g.actions.length
    g.nonterminals g.actions (Nat.le_refl _) hInl hwf.actions_in_range
  exact ⟨{ nonterminals := ds', actions := g.actions ++ extra }, extra, by rw [inlineNt, h1], rfl, h2⟩

end LalrpopModel.Inline
