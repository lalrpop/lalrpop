import LalrpopModel.Lemmas.TokAtom
/-! Token-tree specification of a grammar file and the proof that its rendering with any layout that
    respects the follow restrictions tokenizes to the specified token sequence. -/
namespace LalrpopModel.Tok


/-- a piece of layout between two tokens of a grammar file -/
inductive LP
  | ws (c : Char)
  | line (body : List Char)
  | block (body : List Char)
  deriving Repr

def LP.render : LP → List Char
  | .ws c => [c]
  | .line body => '/' :: '/' :: (body ++ ['\n'])
  | .block body => '/' :: '*' :: (body ++ ['*', '/'])

/-- whitespace is Unicode White_Space; a line comment runs to its newline; a block comment is one
    comment as rustc nests them -/
def LP.ok : LP → Prop
  | .ws c => isWhitespace c = true
  | .line body => ∀ x ∈ body, x ≠ '\n'
  | .block body => commentOK body

def renderLayout (l : List LP) : List Char := l.flatMap LP.render
def layoutOK (l : List LP) : Prop := ∀ x ∈ l, x.ok

/-- iterations of `next_unshifted` per piece: a line comment takes a second one for its newline -/
def LP.iters : LP → Nat
  | .line _ => 2
  | _ => 1
def layoutIters (l : List LP) : Nat := (l.map LP.iters).sum

theorem next_piece (cfg : Cfg) (g p : Nat) (x : LP) (r : List Char) (h : x.ok) :
    nextUnshifted cfg (g + x.iters) ⟨p, x.render ++ r⟩ = nextUnshifted cfg g ⟨p + utf8Len x.render, r⟩ := by
  cases x with
  | ws c => simpa [LP.render, LP.iters] using next_ws cfg g p c r h
  | line body =>
    simp only [LP.render, LP.iters, List.cons_append, List.append_assoc, List.nil_append]
    rw [show g + 2 = g + 1 + 1 from rfl, next_slash_slash, lineComment_scan (p + 1) body r h,
      next_ws cfg g _ '\n' r (by decide)]
    simp +arith [utf8Len_append]
  | block body =>
    simp only [LP.render, LP.iters, List.cons_append, List.append_assoc, List.nil_append]
    rw [next_slash_star cfg g p _ _ (blockComment_scan p (p + 1 + 1) body r h)]
    simp +arith [utf8Len_append]

/-- whitespace, line comments and nested block comments in front of a token only advance the position -/
theorem skip_layout (cfg : Cfg) : ∀ (l : List LP) (g p : Nat) (r : List Char), layoutOK l →
    nextUnshifted cfg (g + layoutIters l) ⟨p, renderLayout l ++ r⟩ =
      nextUnshifted cfg g ⟨p + utf8Len (renderLayout l), r⟩ := by
  intro l
  induction l with
  | nil => intro g p r _; simp [layoutIters, renderLayout]
  | cons x xs ih =>
    intro g p r hok
    obtain ⟨hx, hxs⟩ := List.forall_mem_cons.1 hok
    show nextUnshifted cfg (g + (x.iters + layoutIters xs)) ⟨p, (x.render ++ renderLayout xs) ++ r⟩ =
      nextUnshifted cfg g ⟨p + utf8Len (x.render ++ renderLayout xs), r⟩
    rw [Nat.add_left_comm, Nat.add_comm x.iters, List.append_assoc, next_piece cfg _ p x _ hx, ih g _ r hxs,
      utf8Len_append, Nat.add_assoc]

theorem layoutIters_le (l : List LP) : layoutIters l ≤ (renderLayout l).length :=
  sum_le_length_flatMap LP.render LP.iters (fun x => by cases x <;> simp [LP.iters, LP.render]) l


/-- the tokens of a grammar file as the author means them -/
inductive GA
  | punct (k : Punct)
  /-- identifier or keyword other than `_` and `use` -/
  | word (w : List Char)
  /-- identifier directly followed by `<` (macro reference) -/
  | macroWord (w : List Char)
  | underscore
  | strLit (ps : List SPiece)
  /-- `'w'` with an identifier-like content -/
  | charId (w : List Char)
  /-- `'…'` whose first character is not an identifier start -/
  | charLit (ps : List SPiece)
  | lifetime (w : List Char)
  | regexLit (n : Nat) (body : List Char)
  | escape (body : List Char)
  | arrowCode (as : List RA)
  | arrowQCode (as : List RA)
  | useCode (as : List RA)
  /-- `#![ … ]` module attribute -/
  | shebang (items : List SA)
  deriving Repr

def GA.text : GA → List Char
  | .punct k => k.text
  | .word w => w
  | .macroWord w => w
  | .underscore => ['_']
  | .strLit ps => '"' :: (renderPieces ps ++ ['"'])
  | .charId w => '\'' :: (w ++ ['\''])
  | .charLit ps => '\'' :: (renderPieces ps ++ ['\''])
  | .lifetime w => '\'' :: w
  | .regexLit n body => 'r' :: (List.replicate n '#' ++ '"' :: (body ++ '"' :: List.replicate n '#'))
  | .escape body => '`' :: (body ++ ['`'])
  | .arrowCode as => '=' :: '>' :: renderAll as
  | .arrowQCode as => '=' :: '>' :: '?' :: renderAll as
  | .useCode as => 'u' :: 's' :: 'e' :: renderAll as
  | .shebang items => '#' :: '!' :: '[' :: (renderSA items ++ [']'])

def GA.tok : GA → Tok
  | .punct k => k.tok
  | .word w => wordTok w none
  | .macroWord w => .macroId w
  | .underscore => .underscore
  | .strLit ps => .stringLiteral (renderPieces ps)
  | .charId w => .charLiteral w
  | .charLit ps => .charLiteral (renderPieces ps)
  | .lifetime w => .lifetime ('\'' :: w)
  | .regexLit _ body => .regexLiteral body
  | .escape body => .escape body
  | .arrowCode as => .eqGtCode (renderAll as)
  | .arrowQCode as => .eqGtQuestionCode (renderAll as)
  | .useCode as => .use_ (renderAll as)
  | .shebang items => .shebangAttribute ('#' :: '!' :: '[' :: (renderSA items ++ [']']))

/-- intrinsic well-formedness of an atom -/
def GA.wf : GA → Prop
  | .punct _ => True
  | .word w => isWord w ∧ w ≠ ['_'] ∧ w ≠ ['u', 's', 'e']
  | .macroWord w => isWord w ∧ w ≠ ['_'] ∧ w ≠ ['u', 's', 'e'] ∧ keyword? w = none
  | .underscore => True
  | .strLit ps => ∀ q ∈ ps, q.ok '"' = true
  | .charId w => isWord w
  | .charLit ps => (∀ q ∈ ps, q.ok '\'' = true) ∧ ∀ c, (renderPieces ps).head? = some c → isIdStart c = false
  | .lifetime w => isWord w
  | .regexLit n body => rawBodyOK n body = true
  | .escape body => ∀ x ∈ body, x ≠ '`'
  | .arrowCode _ => True
  | .arrowQCode _ => True
  | .useCode _ => True
  | .shebang items => WFS 1 items

/-- what the text after the atom (layout and further tokens) must look like — **the hypotheses the
    proof of layout invariance forces**:
    * two-character tokens must not arise by juxtaposition (`Punct.followOK`);
    * identifier-like tokens must be separated from a following identifier character;
    * an identifier (not a keyword) directly followed by `<` is a `MacroId`, so for an `Id` something
      must stand between it and `<`, and for a `MacroId` nothing may;
    * the identifier `r` must be separated from `"` and `#` (regex literal);
    * a lifetime must be separated from `'`;
    * code runs up to the first top-level terminator, so the snippet must be well formed and be
      directly followed by its terminator (layout in between would become part of the code text);
    * a `#![…]` attribute tolerates anything after it only in the source variant without the second
      `bump()` (with it, the character after `]` is lost: `shebang_next_char_witness`). -/
def GA.followOK (cfg : Cfg) : GA → List Char → Prop
  | .punct k, f => k.followOK f.head? = true
  | .word w, f => endsWord f ∧ (keyword? w = none → f.head? ≠ some '<') ∧
                  (w = ['r'] → f.head? ≠ some '#' ∧ f.head? ≠ some '"')
  | .macroWord _, f => f.head? = some '<'
  | .underscore, f => endsWord f
  | .lifetime _, f => endsWord f ∧ f.head? ≠ some '\''
  | .arrowCode as, f => ∃ t rest, f = t :: rest ∧ Snippet cfg as t ∧ firstChar as t ≠ '@' ∧ firstChar as t ≠ '?'
  | .arrowQCode as, f => ∃ t rest, f = t :: rest ∧ Snippet cfg as t
  | .useCode as, f => ∃ t rest, f = t :: rest ∧ Snippet cfg as t ∧ isIdContinue (firstChar as t) = false
  | .shebang _, _ => cfg.shebangDoubleBump = false
  | _, _ => True

theorem wordTok_none_of_ne (w : List Char) (nxt : Option Char) (h : keyword? w = none → nxt ≠ some '<') :
    wordTok w nxt = wordTok w none := by
  unfold wordTok
  cases hk : keyword? w with
  | some t => rfl
  | none => simp [h hk]

theorem atom_step (cfg : Cfg) (g p : Nat) (a : GA) (f : List Char) (hwf : a.wf) (hf : a.followOK cfg f) :
    nextUnshifted cfg (g + 1) ⟨p, a.text ++ f⟩ =
      (.tok p a.tok (p + utf8Len a.text), ⟨p + utf8Len a.text, f⟩) := by
  cases a with
  | punct k => exact next_punct cfg k f hf g p
  | word w =>
    have := next_word cfg w f hwf.1 hf.1 hwf.2.1 hwf.2.2 hf.2.2 g p
    rwa [wordTok_none_of_ne w f.head? hf.2.1] at this
  | macroWord w =>
    obtain ⟨hw, h1, h3, hk⟩ := hwf
    have hf : f.head? = some '<' := hf
    have he : endsWord f := by
      intro x hx
      rw [hf] at hx
      injection hx with hx
      exact hx ▸ special_not_idContinue '<' (by decide)
    have := next_word cfg w f hw he h1 h3 (by intro _; rw [hf]; simp) g p
    rwa [wordTok, hk, hf, if_pos rfl] at this
  | underscore => exact next_underscore cfg f hf g p
  | strLit ps => exact next_str cfg ps f hwf g p
  | charId w => exact next_charId cfg w f hwf g p
  | charLit ps => exact next_charPieces cfg ps f hwf.1 hwf.2 g p
  | lifetime w => exact next_lifetime cfg w f hwf hf.1 hf.2 g p
  | regexLit n body => exact next_regex cfg n body f hwf g p
  | escape body => exact next_escape cfg body f hwf g p
  | arrowCode as =>
    obtain ⟨t, rest, rfl, hs, h1, h2⟩ := hf
    exact next_arrowCode cfg as t rest hs h1 h2 g p
  | arrowQCode as =>
    obtain ⟨t, rest, rfl, hs⟩ := hf
    exact next_arrowQCode cfg as t rest hs g p
  | useCode as =>
    obtain ⟨t, rest, rfl, hs, h1⟩ := hf
    exact next_use cfg as t rest hs h1 g p
  | shebang items => exact next_shebang cfg hf items f hwf g p


/-- an atom and the layout that follows it -/
structure DItem where
  atom : GA
  layout : List LP
  deriving Repr

def renderItems : List DItem → List Char
  | [] => []
  | i :: more => i.atom.text ++ (renderLayout i.layout ++ renderItems more)

/-- the text of a grammar file: leading layout, then every atom followed by its layout -/
def renderDoc (lead : List LP) (items : List DItem) : List Char := renderLayout lead ++ renderItems items

/-- every atom well formed, every layout piece well formed, every atom followed by text it tolerates -/
def DocOK (cfg : Cfg) : List DItem → Prop
  | [] => True
  | i :: more => i.atom.wf ∧ layoutOK i.layout ∧
      i.atom.followOK cfg (renderLayout i.layout ++ renderItems more) ∧ DocOK cfg more

def Item.tok? : Item → Option Tok
  | .tok _ t _ => some t
  | .err _ _ => none

/-- layout in front costs `next` only fuel it can spare -/
theorem next_after_layout (cfg : Cfg) (p : Nat) (lead : List LP) (r : List Char) (hl : layoutOK lead) :
    ∃ g, next cfg ⟨p, renderLayout lead ++ r⟩ = nextUnshifted cfg (g + 1) ⟨p + utf8Len (renderLayout lead), r⟩ :=
  ⟨(renderLayout lead).length - layoutIters lead + r.length,
    by rw [next, fuel_split _ r _ (layoutIters_le lead), skip_layout cfg lead _ p r hl]⟩

theorem collect_doc (cfg : Cfg) (shift : Nat) : ∀ (items : List DItem) (lead : List LP) (p fuel : Nat),
    items.length ≤ fuel → layoutOK lead → DocOK cfg items →
    (collect cfg shift (fuel + 1) ⟨p, renderLayout lead ++ renderItems items⟩).map Item.tok? =
      items.map (fun i => some i.atom.tok) := by
  intro items
  induction items with
  | nil =>
    intro lead p fuel _ hl _
    obtain ⟨g, hg⟩ := next_after_layout cfg p lead [] hl
    simp only [renderItems, collect, hg, nextUnshifted, List.map_nil]
  | cons i more ih =>
    intro lead p fuel hfuel hl hdoc
    obtain ⟨hwf, hly, hfo, hmore⟩ := hdoc
    obtain ⟨g, hg⟩ := next_after_layout cfg p lead (i.atom.text ++ (renderLayout i.layout ++ renderItems more)) hl
    simp only [renderItems, collect, hg, atom_step cfg g _ i.atom _ hwf hfo, List.map_cons, Item.tok?]
    cases fuel with
    | zero => simp at hfuel
    | succ f => rw [ih i.layout _ f (by simpa using hfuel) hly hmore]

theorem GA.text_length_pos (a : GA) (h : a.wf) : 1 ≤ a.text.length := by
  cases a with
  | punct k => cases k <;> decide
  | word w =>
    obtain ⟨c, cs, rfl⟩ := isWord_cons h.1
    exact Nat.succ_pos _
  | macroWord w =>
    obtain ⟨c, cs, rfl⟩ := isWord_cons h.1
    exact Nat.succ_pos _
  | _ => exact Nat.succ_pos _

theorem renderItems_length (cfg : Cfg) (items : List DItem) (h : DocOK cfg items) :
    items.length ≤ (renderItems items).length := by
  induction items with
  | nil => simp
  | cons i more ih =>
    have := GA.text_length_pos i.atom h.1
    have := ih h.2.2.2
    simp [renderItems]; omega

end LalrpopModel.Tok
