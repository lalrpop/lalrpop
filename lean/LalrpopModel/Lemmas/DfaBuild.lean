import LalrpopModel.Lemmas.DfaKind
/-!
The worklist loop of `DfaBuilder::build`. Every registered kernel is a duplicate-free reach set (`KernelOk`);
every processed one has a kind and all its successors registered (`Processed`); `LoopResult` says what each verdict of
the loop means.
-/
namespace LalrpopModel.Dfa
open LalrpopModel.Nfa

def Successor (nfas : List Nfa) (cfuel : Nat) (I : List Item) (c : Nat) (I' : List Item) : Prop :=
  closure nfas cfuel (charStep nfas I c) = some I'

theorem addState_spec {ks ks' : List (List Item)} {s : List Item} {idx : Nat} (h : addState ks s = (idx, ks')) :
    ∃ extra, ks' = ks ++ extra ∧ s ∈ ks' ∧ ∀ x, x ∈ extra → x = s := by
  unfold addState at h
  split at h
  · rename_i i hi
    cases h
    refine ⟨[], (List.append_nil _).symm, Decidable.by_contra fun hn => ?_, nofun⟩
    rw [List.idxOf?_eq_none_iff.mpr hn] at hi
    cases hi
  · cases h
    exact ⟨[s], rfl, List.mem_append_right _ (List.mem_singleton_self s), fun x hx => List.mem_singleton.mp hx⟩

/-- what `testEdges` returns: the kernel set grown by the successors on the tests, each test's successor
registered; or one of the two errors that say nothing about the grammar -/
theorem testEdges_spec (nfas : List Nfa) (fuel : Nat) (items : List Item) :
    ∀ (tests : List Range) (ks : List (List Item)) (r : Except Verdict (List (Range × Nat) × List (List Item))),
    testEdges nfas fuel items tests ks = r →
    match r with
    | .error v => v = .fuel ∨ v = .panic
    | .ok (_, ks') => ∃ extra, ks' = ks ++ extra ∧
      (∀ t, t ∈ tests → ∃ I', closure nfas fuel (items.filterMap (fun it => acceptTest nfas it t)) = some I' ∧ I' ∈ ks') ∧
      (∀ x, x ∈ extra → ∃ t, t ∈ tests ∧ closure nfas fuel (items.filterMap (fun it => acceptTest nfas it t)) = some x) := by
  intro tests
  induction tests with
  | nil =>
    intro ks r h
    subst h
    exact ⟨[], (List.append_nil _).symm, nofun, nofun⟩
  | cons t ts ih =>
    intro ks r h
    rw [testEdges] at h
    split at h
    · subst h
      exact .inr rfl
    · split at h
      · subst h
        exact .inl rfl
      · rename_i cl hcl
        split at h
        rename_i idx ks1 hadd
        obtain ⟨ex1, rfl, hmem1, hex1⟩ := addState_spec hadd
        split at h
        · rename_i e hrec
          subst h
          exact ih _ _ hrec
        · rename_i edges' ks2 hrec
          obtain ⟨ex2, rfl, hall2, hex2⟩ := ih _ _ hrec
          subst h
          refine ⟨ex1 ++ ex2, List.append_assoc .., fun t' ht' => ?_, fun x hx => ?_⟩
          · rcases List.mem_cons.mp ht' with rfl | ht'
            · exact ⟨cl, hcl, List.mem_append_left _ hmem1⟩
            · exact hall2 t' ht'
          · rcases List.mem_append.mp hx with hx | hx
            · rw [hex1 x hx]
              exact ⟨t, List.mem_cons_self, hcl⟩
            · obtain ⟨t', ht', h'⟩ := hex2 x hx
              exact ⟨t', List.mem_cons_of_mem _ ht', h'⟩

/-- what the ranges computed by `remove_overlap` must satisfy -/
def RoOk (ro : List Range → Except OErr (List Range)) : Prop :=
  ∀ labels tests, ro labels = .ok tests → TestsOk labels tests

theorem removeOverlap_ok (fuel : Nat) : RoOk (removeOverlap fuel) := by
  intro labels tests h
  obtain ⟨_, h2, h3, h4⟩ := removeOverlap_partition fuel labels tests h
  exact ⟨h2, h3, h4⟩

/-- facts about a kernel (an item set registered in the kernel set) -/
structure KernelOk (nfas : List Nfa) (I : List Item) : Prop where
  nodup : I.Nodup
  reach : ∃ w, Rs nfas I w

theorem KernelOk.succ {nfas : List Nfa} {cfuel c : Nat} {I I' : List Item} (h : KernelOk nfas I)
    (hs : Successor nfas cfuel I c I') : KernelOk nfas I' :=
  let ⟨w, hw⟩ := h.reach
  ⟨closure_nodup hs, w ++ [c], rs_step nfas cfuel I I' w c hw hs⟩

/-- a processed kernel: no ambiguity, and all its successors are registered -/
structure Processed (nfas : List Nfa) (precs : List Nat) (cfuel : Nat) (ks : List (List Item)) (I : List Item) : Prop where
  kind : ∃ k, stateKind nfas precs I = .ok k
  succ : ∀ c, ∃ I', I' ∈ ks ∧ Successor nfas cfuel I c I'

theorem Processed.mono {nfas : List Nfa} {precs : List Nat} {cfuel : Nat} {ks ks' : List (List Item)} {I : List Item}
    (h : Processed nfas precs cfuel ks I) (hks : ∀ J, J ∈ ks → J ∈ ks') : Processed nfas precs cfuel ks' I :=
  ⟨h.kind, fun c => let ⟨I', hI', hS⟩ := h.succ c; ⟨I', hks I' hI', hS⟩⟩

/-- what `processKernel` returns. A kernel that is processed gets a kind, and the kernel set grows by successors of
it so that every symbol has its successor registered: a symbol inside a test range goes where that test's edge
goes, a symbol outside all of them where the `Other` edge goes. The only error that is a verdict about the grammar
is the `Ambiguity` of `stateKind`. -/
theorem processKernel_spec (ro : List Range → Except OErr (List Range)) (hro : RoOk ro) (nfas : List Nfa)
    (precs : List Nat) (cfuel : Nat) (items : List Item) (ks : List (List Item)) :
    ∀ r, processKernel ro nfas precs cfuel items ks = r →
    match r with
    | .error v => v = .fuel ∨ v = .panic ∨
        ∃ m0 m1, v = .ambiguity m0 m1 ∧ stateKind nfas precs items = .error (m0, m1)
    | .ok (st, ks2) => st.items = items ∧ (∃ k, stateKind nfas precs items = .ok k) ∧
        ∃ extra, ks2 = ks ++ extra ∧ (∀ c, ∃ I', I' ∈ ks2 ∧ Successor nfas cfuel items c I') ∧
          ∀ x, x ∈ extra → ∃ c, Successor nfas cfuel items c x := by
  intro r h
  unfold processKernel at h
  simp only at h
  split at h
  · subst h
    exact .inl rfl
  · subst h
    exact .inr (.inl rfl)
  · rename_i tests hro'
    have hok : TestsOk (labelsOf nfas items) tests := hro _ _ hro'
    split at h
    · rename_i m0 m1 hk
      subst h
      exact .inr (.inr ⟨m0, m1, rfl, hk⟩)
    · rename_i kind hkind
      split at h
      · rename_i v hte
        subst h
        exact (testEdges_spec nfas cfuel items tests ks _ hte).imp_right .inl
      · rename_i edges ks1 hte
        obtain ⟨ex1, rfl, hall1, hex1⟩ := testEdges_spec nfas cfuel items tests ks _ hte
        split at h
        · subst h
          exact .inr (.inl rfl)
        · split at h
          · subst h
            exact .inl rfl
          · rename_i cl hcl
            obtain ⟨ex2, he2, hmem2, hex2⟩ := addState_spec (Prod.eta (addState (ks ++ ex1) cl)).symm
            subst h
            show _ ∧ _ ∧ ∃ extra, (addState (ks ++ ex1) cl).2 = _ ∧ _
            rw [he2] at hmem2 ⊢
            refine ⟨rfl, ⟨kind, hkind⟩, ex1 ++ ex2, List.append_assoc .., fun c => ?_, fun I hI => ?_⟩
            · by_cases hc : ∃ t, t ∈ tests ∧ mem c t
              · obtain ⟨t, ht, hm⟩ := hc
                obtain ⟨I', hI', hmem⟩ := hall1 t ht
                refine ⟨I', List.mem_append_left _ hmem, ?_⟩
                rwa [Successor, ← acceptTest_eq_step hok ht hm]
              · refine ⟨cl, hmem2, ?_⟩
                rwa [Successor, ← acceptOther_eq_step hok fun t ht hm => hc ⟨t, ht, hm⟩]
            · rcases List.mem_append.mp hI with hI | hI
              · obtain ⟨t, ht, hcl'⟩ := hex1 I hI
                refine ⟨t.1, ?_⟩
                rwa [Successor, ← acceptTest_eq_step hok ht ((isEmpty_eq_false_iff t).mp (hok.nonempty t ht))]
              · obtain ⟨c, hc⟩ := exists_outside tests
                refine ⟨c, ?_⟩
                rwa [hex2 I hI, Successor, ← acceptOther_eq_step hok hc]

/-- what a run of the worklist loop establishes -/
def LoopResult (nfas : List Nfa) (precs : List Nat) (cfuel : Nat) (ks0 : List (List Item)) : Verdict → Prop
  | .ambiguity m0 m1 => ∃ I, KernelOk nfas I ∧ stateKind nfas precs I = .error (m0, m1)
  | .ok states => ∃ ks', (∀ I, I ∈ ks0 → I ∈ ks') ∧ (∀ I, I ∈ ks' → KernelOk nfas I ∧ Processed nfas precs cfuel ks' I) ∧
      states.map (·.items) = ks'
  | _ => True

theorem buildLoop_spec (ro : List Range → Except OErr (List Range)) (hro : RoOk ro) (nfas : List Nfa)
    (precs : List Nat) (cfuel : Nat) (ks0 : List (List Item)) :
    ∀ (f : Nat) (ks : List (List Item)) (i : Nat) (out : List DState),
    (∀ I, I ∈ ks0 → I ∈ ks) →
    (∀ I, I ∈ ks → KernelOk nfas I) →
    (∀ (j : Nat) (I : List Item), j < i → ks[j]? = some I → Processed nfas precs cfuel ks I) →
    out.map (·.items) = ks.take i →
    LoopResult nfas precs cfuel ks0 (buildLoop ro nfas precs cfuel f ks i out) := by
  intro f
  induction f with
  | zero => intro ks i out _ _ _ _; trivial
  | succ f ih =>
    intro ks i out h0 hK hD hout
    rw [buildLoop]
    split
    · rename_i hitems
      have hlen : ks.length ≤ i := List.getElem?_eq_none_iff.mp hitems
      refine ⟨ks, h0, fun I hI => ?_, by rw [hout, List.take_of_length_le hlen]⟩
      obtain ⟨j, hj⟩ := List.mem_iff_getElem?.mp hI
      exact ⟨hK I hI, hD j I (Nat.lt_of_lt_of_le (List.getElem?_eq_some_iff.mp hj).1 hlen) hj⟩
    · rename_i items hitems
      have hitems_mem : items ∈ ks := List.mem_iff_getElem?.mpr ⟨i, hitems⟩
      have hilt : i < ks.length := (List.getElem?_eq_some_iff.mp hitems).1
      split
      · rename_i v hp
        rcases processKernel_spec ro hro nfas precs cfuel items ks _ hp with rfl | rfl | ⟨m0, m1, rfl, hk⟩
        · trivial
        · trivial
        · exact ⟨items, hK items hitems_mem, hk⟩
      · rename_i st ks2 hp
        obtain ⟨hst, hkind, extra, rfl, hsucc, hextra⟩ :=
          processKernel_spec ro hro nfas precs cfuel items ks _ hp
        have hsub : ∀ J, J ∈ ks → J ∈ ks ++ extra := fun J => List.mem_append_left _
        refine ih (ks ++ extra) (i + 1) (out ++ [st]) (fun I hI => hsub I (h0 I hI)) (fun I hI => ?_)
          (fun j I hj hjI => ?_) ?_
        · rcases List.mem_append.mp hI with hI | hI
          · exact hK I hI
          · obtain ⟨c, hc⟩ := hextra I hI
            exact (hK items hitems_mem).succ hc
        · rw [List.getElem?_append_left (by omega)] at hjI
          by_cases hji : j = i
          · rw [hji, hitems] at hjI
            cases hjI
            exact ⟨hkind, hsucc⟩
          · exact (hD j I (by omega) hjI).mono hsub
        · rw [List.map_append, hout, List.take_append_of_le_length (by omega), List.take_add_one]
          simp [hitems, hst]

theorem rs_valid {nfas : List Nfa} {I : List Item} {w : List Nat} (hI : Rs nfas I w) : ItemsValid nfas I :=
  fun it hit => ((hI it).mp hit).1

theorem build_loopResult {nfas : List Nfa} {precs : List Nat} {fuel : Nat} {v : Verdict}
    (h : build nfas precs fuel = v) (hv : v ≠ .fuel) :
    ∃ s0, closure nfas fuel ((List.range nfas.length).map (fun i => (i, START))) = some s0 ∧
      LoopResult nfas precs fuel [s0] v := by
  simp only [build, buildWith] at h
  cases hc : closure nfas fuel ((List.range nfas.length).map (fun i => (i, START))) with
  | none => rw [hc] at h; exact absurd h.symm hv
  | some s0 =>
    rw [hc] at h
    subst h
    refine ⟨s0, rfl, buildLoop_spec (removeOverlap fuel) (removeOverlap_ok fuel) nfas precs fuel [s0] fuel [s0] 0 []
      (fun _ h => h) (fun I hI => ?_) (fun j I hj => absurd hj (Nat.not_lt_zero j)) rfl⟩
    rw [List.mem_singleton.mp hI]
    exact ⟨closure_nodup hc, [], rs_start nfas fuel s0 hc⟩

/-- if `build` completes, every state is a duplicate-free reach set with an unambiguous kind, and
every word reaches a state -/
theorem build_ok {nfas : List Nfa} {precs : List Nat} {fuel : Nat} {states : List DState}
    (h : build nfas precs fuel = .ok states) :
    (∀ st, st ∈ states → KernelOk nfas st.items ∧ ∃ k, stateKind nfas precs st.items = .ok k) ∧
    ∀ w, ∃ st, st ∈ states ∧ Rs nfas st.items w := by
  obtain ⟨s0, hc, ks', hstart, hall, hmap⟩ := build_loopResult h nofun
  have hmem : ∀ I, I ∈ ks' ↔ ∃ st, st ∈ states ∧ st.items = I := by
    intro I; rw [← hmap, List.mem_map]
  constructor
  · intro st hst
    obtain ⟨hK, hD⟩ := hall st.items ((hmem _).mpr ⟨st, hst, rfl⟩)
    exact ⟨hK, hD.kind⟩
  · have hgo : ∀ (w u : List Nat) (I : List Item), I ∈ ks' → Rs nfas I u →
        ∃ I', I' ∈ ks' ∧ Rs nfas I' (u ++ w) := by
      intro w
      induction w with
      | nil => intro u I hI hr; exact ⟨I, hI, by rwa [List.append_nil]⟩
      | cons c w ih =>
        intro u I hI hr
        obtain ⟨I1, hI1, hS⟩ := (hall I hI).2.succ c
        obtain ⟨I2, hI2, hr2⟩ := ih (u ++ [c]) I1 hI1 (rs_step nfas fuel I I1 u c hr hS)
        exact ⟨I2, hI2, by rwa [List.append_assoc] at hr2⟩
    intro w
    obtain ⟨I', hI', hr⟩ := hgo w [] s0 (hstart s0 List.mem_cons_self) (rs_start nfas fuel s0 hc)
    obtain ⟨st, hst, rfl⟩ := (hmem I').mp hI'
    exact ⟨st, hst, hr⟩

theorem buildNfas_spec (m : Re.LitMode) : ∀ (res : List Re.Hir) (i0 : Nat) (nfas : List Nfa),
    buildNfas m res i0 = .ok nfas →
    nfas.length = res.length ∧
      ∀ i, i < nfas.length → ∃ e, res[i]? = some e ∧ fromReWith m e = .ok (nfaAt nfas i)
  | [], _, nfas, h => by
    cases h
    exact ⟨rfl, fun i hi => absurd hi (Nat.not_lt_zero i)⟩
  | e :: es, i0, nfas, h => by
    rw [buildNfas] at h
    split at h
    · cases h
    · rename_i N hN
      split at h
      · cases h
      · rename_i ns hns
        cases h
        obtain ⟨hl, hall⟩ := buildNfas_spec m es (i0 + 1) ns hns
        refine ⟨congrArg Nat.succ hl, fun i hi => ?_⟩
        cases i with
        | zero => exact ⟨e, rfl, hN⟩
        | succ i => exact hall i (Nat.lt_of_succ_lt_succ hi)

end LalrpopModel.Dfa
