import LalrpopModel.Lemmas.NfaAtoms
/-!
Correctness of `Nfa::from_re`: every arm of `Nfa::expr` is one of the combinators of `NfaComb` and `NfaAtoms`,
applied to the builders of the sub-expressions. When the construction fails: whether a builder succeeds does not
depend on its arguments (`Uniform`), so failure is a property of the HIR alone.
-/
namespace LalrpopModel.Nfa
open LalrpopModel.Re

mutual
theorem expr_impl (m : LitMode) (rej : Nat) : ∀ (e : Hir), e.WF →
    Impl (fun acc n => expr m e acc rej n) rej (denote m e)
  | .empty, _ => pure_impl rej
  | .lit bs, _ => by
    intro acc n s n' he
    simp only [expr] at he
    cases hl : litSymbols m bs with
    | none => rw [hl] at he; cases he
    | some cs =>
      rw [hl] at he
      refine (litChain_impl cs.reverse rej).congr (fun w => ?_) acc n s n' he
      rw [List.reverse_reverse]
      show w = cs ↔ litSymbols m bs = some w
      rw [hl]
      exact ⟨fun h => h ▸ rfl, fun h => (Option.some.inj h).symm⟩
  | .cls rs, _ => clsBuild_impl rs rej
  | .look, _ => fun acc n s n' he => nomatch he
  | .cap named sub, hwf => by
    intro acc n s n' he
    cases named with
    | true => cases he
    | false => exact expr_impl m rej sub hwf acc n s n' he
  | .rep min max greedy sub, hwf => by
    intro acc n s n' he
    cases greedy with
    | false => cases he
    | true => exact repWith_impl (expr_impl m rej sub hwf.2) min max hwf.1 acc n s n' he
  | .cat es, hwf => exprCat_impl m rej es hwf
  | .alt es, hwf => alt_impl (exprAlts_impl m rej es hwf)
theorem exprCat_impl (m : LitMode) (rej : Nat) : ∀ (es : List Hir), WFs es →
    Impl (fun acc n => exprCat m es acc rej n) rej (denoteCat m es)
  | [], _ => pure_impl rej
  | e :: es, hwf => seqB_impl (exprCat_impl m rej es hwf.2) (expr_impl m rej e hwf.1)
theorem exprAlts_impl (m : LitMode) (rej : Nat) : ∀ (es : List Hir), WFs es →
    AltsImpl (fun acc n => exprAlts m es acc rej n) rej (denoteAlt m es)
  | [], _ => alts_nil_impl rej
  | e :: es, hwf => alts_cons_impl (expr_impl m rej e hwf.1) (exprAlts_impl m rej es hwf.2)
end

theorem initNfa_length : initNfa.length = 3 := rfl

structure FromReFacts (N : Nfa) (s0 : Nat) : Prop where
  s_accept : N[0]? = some { kind := .accept, other := [REJECT] }
  s_reject : N[1]? = some { kind := .reject, other := [REJECT] }
  s_start : N[2]? = some { kind := .neither, noop := [s0] }

theorem rejDead_of {N : Nfa} (h : N[1]? = some { kind := .reject, other := [REJECT] }) : RejDead N REJECT := by
  intro k w hr
  generalize hq : REJECT = q at hr
  induction hr with
  | acc k s hs => rw [← hq, kindOf_of h] at hs; cases hs
  | eps k s u w hu _ _ => rw [← hq, noopOf_of h] at hu; cases hu
  | chr k s u c w hu _ ih =>
    rw [← hq, stepChar_none h c rfl] at hu
    exact ih (Option.some.inj hu)

/-- from the accepting state only the empty word is accepted: its one edge leads to `REJECT` -/
theorem reach_accept_nil {N : Nfa} (h0 : N[0]? = some { kind := .accept, other := [REJECT] })
    (h1 : N[1]? = some { kind := .reject, other := [REJECT] }) {k : Nat} {w : List Nat}
    (hr : ReachN N k ACCEPT w) : w = [] := by
  cases hr with
  | acc k s hs => rfl
  | eps k s u w hu hr => rw [noopOf_of h0] at hu; cases hu
  | chr k s u c w hu hr =>
    rw [stepChar_none h0 c rfl] at hu
    cases hu
    exact absurd hr (rejDead_of h1 _ _)

/-- the NFA of `from_re`: the three states of `Nfa::new` (`START` with its Noop edge to the entry
state `s0` of the expression) and, from `s0` to `ACCEPT`, the language of the expression -/
theorem fromReWith_ok {m : LitMode} {e : Hir} (hwf : e.WF) {N : Nfa} (h : fromReWith m e = .ok N) :
    ∃ s0 n1, N = pushNoop n1 START s0 ∧ Frame initNfa n1 ∧ FromReFacts N s0 ∧
      Spec (denote m e) N s0 ACCEPT := by
  obtain ⟨⟨s0, n1⟩, h1, h⟩ := bind_eq_ok h
  cases h
  obtain ⟨fr, sp⟩ := expr_impl m REJECT e hwf ACCEPT initNfa s0 n1 h1
  have facts : FromReFacts (pushNoop n1 START s0) s0 := by
    refine ⟨?_, ?_, ?_⟩
    · rw [getElem?_pushNoop, if_neg (by decide), fr.old 0 (by decide)]; rfl
    · rw [getElem?_pushNoop, if_neg (by decide), fr.old 1 (by decide)]; rfl
    · rw [getElem?_pushNoop, if_pos rfl, fr.old 2 (by decide)]; rfl
  refine ⟨s0, n1, rfl, fr, facts, sp _ (fun q hq _ => ?_) (rejDead_of facts.s_reject)⟩
  rw [getElem?_pushNoop, if_neg (Nat.ne_of_lt (show START < q from hq))]

/-- **nfa_correct** (any literal mode): the NFA built by `from_re` accepts exactly the language
of the HIR -/
theorem nfa_correct_with (m : LitMode) (e : Hir) (hwf : e.WF) (N : Nfa) (h : fromReWith m e = .ok N)
    (w : List Nat) : accepts N w ↔ denote m e w := by
  obtain ⟨s0, n1, _, _, facts, S⟩ := fromReWith_ok hwf h
  constructor
  · rintro ⟨k, hr⟩
    obtain ⟨k', u, rfl, hu, hr'⟩ := reach_noop_state facts.s_start hr
    rw [List.mem_singleton.mp hu] at hr'
    obtain ⟨w1, w2, k2, _, rfl, hw1, hr2⟩ := S.sound k' w hr'
    rw [reach_accept_nil facts.s_accept facts.s_reject hr2, List.append_nil]
    exact hw1
  · intro hw
    have := S.complete w [] hw ⟨0, .acc 0 _ (kindOf_of facts.s_accept)⟩
    rw [List.append_nil] at this
    exact Acc.noop facts.s_start List.mem_cons_self this

/-- only state 0 of a `from_re` NFA is accepting: the states of `Nfa::new` keep their kinds, all
later ones are `Neither` -/
theorem fromRe_accepting_iff {m : LitMode} {e : Hir} (hwf : e.WF) {N : Nfa}
    (h : fromReWith m e = .ok N) (q : Nat) : kindOf N q = .accept ↔ q = 0 := by
  obtain ⟨s0, n1, rfl, fr, _, _⟩ := fromReWith_ok hwf h
  rw [kindOf_pushNoop, fr.kindOf_eq]
  split
  · rename_i hq
    have : q = 0 ∨ q = 1 ∨ q = 2 := by rw [initNfa_length] at hq; omega
    rcases this with rfl | rfl | rfl
    · decide
    · decide
    · decide
  · rename_i hq
    exact ⟨nofun, fun h => absurd (h ▸ (by decide : 0 < initNfa.length)) hq⟩

mutual
/-- the HIR contains (in a position `Nfa::expr` visits) look-around, a lazy repetition, a named
group, or — in `chars` mode — a literal that is not UTF-8 -/
def unsupported (m : LitMode) : Hir → Bool
  | .empty => false
  | .lit bs => (litSymbols m bs).isNone
  | .cls _ => false
  | .look => true
  | .cap named sub => named || unsupported m sub
  | .rep min max greedy sub => !greedy || (!(min == 0 && max == some 0) && unsupported m sub)
  | .cat es => unsupporteds m es
  | .alt es => unsupporteds m es
def unsupporteds (m : LitMode) : List Hir → Bool
  | [] => false
  | e :: es => unsupported m e || unsupporteds m es
end

def Total {α : Type} (f : Nat → Nfa → Except Err α) : Prop := ∀ acc n, ∃ r, f acc n = .ok r
def Failing {α : Type} (f : Nat → Nfa → Except Err α) : Prop := ∀ acc n, ∃ err, f acc n = .error err

/-- whether `f` succeeds does not depend on its arguments: it does iff `b` -/
def Uniform {α : Type} (f : Nat → Nfa → Except Err α) (b : Bool) : Prop := ∀ acc n, (f acc n).isOk = b

theorem Uniform.fail_iff {α : Type} {f : Nat → Nfa → Except Err α} {b : Bool} (h : Uniform f (!b)) :
    (b = true → Failing f) ∧ (b = false → Total f) :=
  ⟨fun hb acc n => isOk_eq_false_iff.mp ((h acc n).trans (congrArg (!·) hb)),
   fun hb acc n => isOk_eq_true_iff.mp ((h acc n).trans (congrArg (!·) hb))⟩

theorem Uniform.congr {α : Type} {f : Nat → Nfa → Except Err α} {b b' : Bool} (h : Uniform f b) (e : b = b') :
    Uniform f b' := e ▸ h

theorem Uniform.optional {f : Nat → Nfa → Build} {b : Bool} (h : Uniform f b) : Uniform (optionalWith f) b :=
  fun acc n => (isOk_bind_ok fun _ => rfl).trans (h acc n)
theorem Uniform.star {f : Nat → Nfa → Build} {b : Bool} (h : Uniform f b) : Uniform (starWith f) b :=
  fun _ n => (isOk_bind_ok fun _ => rfl).trans (h (newState n).1 (newState n).2)
theorem Uniform.plus {f : Nat → Nfa → Build} {b : Bool} (h : Uniform f b) : Uniform (plusWith f) b :=
  fun _ n => (isOk_bind_ok fun _ => rfl).trans (h (newState n).1 (newState n).2)

theorem Uniform.seq {g f : Nat → Nfa → Build} {bg bf : Bool} (hg : Uniform g bg) (hf : Uniform f bf) :
    Uniform (seqB g f) (bg && bf) := by
  intro acc n
  rw [← hg acc n]
  exact isOk_bind fun r => hf r.1 r.2

/-- zero copies succeed whatever `f` does -/
theorem Uniform.repeat {f : Nat → Nfa → Build} {b : Bool} (h : Uniform f b) :
    ∀ k, Uniform (repeatWith f k) (k == 0 || b)
  | 0 => fun _ _ => rfl
  | k + 1 => (h.seq (Uniform.repeat h k)).congr (by cases b <;> simp)

/-- the `Repetition` arm fails iff its body does, except that `x{0}` never builds the body -/
theorem Uniform.rep {f : Nat → Nfa → Build} {u : Bool} (h : Uniform f (!u)) (min : Nat) (max : Option Nat) :
    Uniform (repWith f min max) (!(!(min == 0 && max == some 0) && u)) := by
  unfold repWith
  split
  · exact h.optional
  · exact h.star
  · exact h.plus
  · rename_i mx _
    split
    · rename_i heq
      subst heq
      exact (h.repeat min).congr (by cases u <;> simp)
    · -- no copy is built only if `mx - min = 0` and `min = 0`, that is `x{0,0}`
      exact ((h.optional.repeat (mx - min)).seq (h.repeat min)).congr (by cases u <;> cases min <;> simp)
  · exact (h.star.seq (h.repeat min)).congr (by cases u <;> simp)

mutual
theorem expr_uniform (m : LitMode) (rej : Nat) : ∀ (e : Hir),
    Uniform (fun acc n => expr m e acc rej n) (!unsupported m e)
  | .empty => fun _ _ => rfl
  | .lit bs => fun acc n => by
    show (expr m (.lit bs) acc rej n).isOk = !(litSymbols m bs).isNone
    simp only [expr]
    cases litSymbols m bs with
    | none => rfl
    | some cs => rfl
  | .cls rs => fun _ _ => rfl
  | .look => fun _ _ => rfl
  | .cap true sub => fun _ _ => rfl
  | .cap false sub => expr_uniform m rej sub
  | .rep min max false sub => fun _ _ => rfl
  | .rep min max true sub => (expr_uniform m rej sub).rep min max
  | .cat es => exprCat_uniform m rej es
  | .alt es => fun acc n => (isOk_bind_ok fun _ => rfl).trans (exprAlts_uniform m rej es acc (newState n).2)
theorem exprCat_uniform (m : LitMode) (rej : Nat) : ∀ (es : List Hir),
    Uniform (fun acc n => exprCat m es acc rej n) (!unsupporteds m es)
  | [] => fun _ _ => rfl
  | e :: es => ((exprCat_uniform m rej es).seq (f := fun s n => expr m e s rej n) (expr_uniform m rej e)).congr
      (by rw [unsupporteds, Bool.not_or, Bool.and_comm])
theorem exprAlts_uniform (m : LitMode) (rej : Nat) : ∀ (es : List Hir),
    Uniform (fun acc n => exprAlts m es acc rej n) (!unsupporteds m es)
  | [] => fun _ _ => rfl
  | e :: es => fun acc n => by
    rw [unsupporteds, Bool.not_or, ← expr_uniform m rej e acc n]
    exact isOk_bind fun r => (isOk_bind_ok fun _ => rfl).trans (exprAlts_uniform m rej es acc r.2)
end

theorem exprAlts_fail_iff (m : LitMode) (rej : Nat) : ∀ (es : List Hir),
    (unsupporteds m es = true → Failing (fun acc n => exprAlts m es acc rej n)) ∧
    (unsupporteds m es = false → Total (fun acc n => exprAlts m es acc rej n)) :=
  fun es => (exprAlts_uniform m rej es).fail_iff

/-- **unsupported_iff**: `from_re` fails exactly on the HIRs containing an unsupported feature -/
theorem unsupported_iff_with (m : LitMode) (e : Hir) :
    (∃ err, fromReWith m e = .error err) ↔ unsupported m e = true := by
  rw [← isOk_eq_false_iff, show (fromReWith m e).isOk = !unsupported m e from
    (isOk_bind_ok fun _ => rfl).trans (expr_uniform m REJECT e ACCEPT initNfa)]
  cases unsupported m e with
  | false => exact ⟨nofun, nofun⟩
  | true => exact ⟨fun _ => rfl, fun _ => rfl⟩

end LalrpopModel.Nfa
