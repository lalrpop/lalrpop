import LalrpopModel.Lemmas.LRGenericIO
/-!
C17 for arbitrary tables: stream errors and action errors are returned verbatim and stop the parse.
-/
namespace LalrpopModel.LR.Generic
open LalrpopModel.LR
variable {T : Tables} {af : Nat} {failAt : Option Nat} {startLoc : Int}

def SErrInv (pre : List Tok) (e : Nat) (post : List Item) (c : Cfg) (ph : Phase) : Prop :=
  c.pulled ≤ pre.length ∨ (c.pulled = pre.length + 1 ∧ c.input = post ∧ ph = .done (.err (.user e)))

theorem drop_map_append {pre : List Tok} {x : Item} {post : List Item} :
    (pre.map Item.tok ++ x :: post).drop pre.length = x :: post := by
  have : pre.length = (pre.map Item.tok).length := (List.length_map ..).symm
  rw [this, List.drop_left]

theorem SErrInv.step {pre : List Tok} {e : Nat} {post : List Item} {c c' : Cfg} {ph ph' : Phase}
    (hio : IOInv T startLoc (pre.map Item.tok ++ .err e :: post) c ph)
    (h : SErrInv pre e post c ph) (hs : Step T af failAt startLoc c ph c' ph') :
    SErrInv pre e post c' ph' := by
  rcases h with h | ⟨h1, h2, rfl⟩
  · rcases hs.io_cases with ⟨-, hp, -⟩ | ⟨-, -, -, -, nt, hn, hk⟩
    · exact .inl (hp ▸ h)
    · have hp' := hn.frame.2.2.2.2
      by_cases hlt : c.pulled < pre.length
      · exact .inl (hp' ▸ hlt)
      · -- the item about to be pulled is the `Err(e)`
        have hp : c.pulled = pre.length := Nat.le_antisymm h (Nat.le_of_not_lt hlt)
        have hinp := hio.inp
        rw [hp, drop_map_append] at hinp
        have hnt : c'.input = post ∧ nt = .done (.err (.user e)) := by
          cases hn with
          | err e' rest hi =>
            cases hinp.symm.trans hi
            exact ⟨rfl, rfl⟩
          | eof hi => cases hinp.symm.trans hi
          | found t i rest hi hk => cases hinp.symm.trans hi
          | unrec t rest hi hk ex hex => cases hinp.symm.trans hi
          | panic t rest hi hk tag => cases hinp.symm.trans hi
        refine .inr ⟨hp ▸ hp', hnt.1, ?_⟩
        rcases hk with ⟨-, rfl⟩ | ⟨t, i, e', d, sl, fe, -, rfl⟩ <;> rw [hnt.2] <;> rfl
  · obtain ⟨rfl, rfl⟩ := hs.from_done
    exact .inr ⟨h1, h2, rfl⟩

theorem serr_of_run {pre : List Tok} {e : Nat} {post : List Item} {n : Nat} {c : Cfg} {ph : Phase}
    (h : run T af failAt startLoc n (init startLoc (pre.map Item.tok ++ .err e :: post)) .pull = (c, ph)) :
    SErrInv pre e post c ph :=
  (inv_of_run (SErrInv pre e post) (.inl (Nat.zero_le _)) (fun _ _ _ _ hio hi hs => hi.step hio hs) h).2

theorem ReduceSpec.cont_acts {c : Cfg} {p : Nat} {ls : Option Int} {c' : Cfg}
    (h : ReduceSpec T failAt startLoc c p ls (.continue_ c')) :
    c'.acts = c.acts + 1 ∧ c'.trace = p :: c.trace ∧
      (T.fallible[p]? = some true → failAt ≠ some c.acts) := by
  cases h with
  | cont n A hn hlen hnf hlhs hst below more hs => exact ⟨rfl, rfl, hnf⟩

theorem ReduceSpec.fin_acts {c : Cfg} {p : Nat} {ls : Option Int} {c' : Cfg} {r : Outcome}
    (h : ReduceSpec T failAt startLoc c p ls (.finished c' r)) :
    (c' = c ∧ ∃ tag, r = .panic tag) ∨
    (c'.acts = c.acts + 1 ∧ c'.trace = p :: c.trace ∧
      (T.fallible[p]? = some true → failAt = some c.acts → r = .err (.user (failCode c.acts)))) := by
  cases h with
  | bad tag => exact .inl ⟨rfl, tag, rfl⟩
  | fail n hn hlen hfal hf => exact .inr ⟨rfl, rfl, fun _ _ => rfl⟩
  | accept n hn hlen hnf hst k hk => exact .inr ⟨rfl, rfl, fun h1 h2 => (hnf h1 h2).elim⟩
  | badStart n hn hlen hnf => exact .inr ⟨rfl, rfl, fun h1 h2 => (hnf h1 h2).elim⟩
  | pushedPanic n hn hlen hnf tag => exact .inr ⟨rfl, rfl, fun h1 h2 => (hnf h1 h2).elim⟩

theorem finOutcome_user (ph : Phase) (e : Nat) : finOutcome ph (.err (.user e)) = .err (.user e) := by
  cases ph <;> rfl

theorem Step.acts_cases {c c' : Cfg} {ph ph' : Phase} (hs : Step T af failAt startLoc c ph c' ph') :
    (c'.acts = c.acts ∧ c'.trace = c.trace) ∨
    (∃ p, c'.acts = c.acts + 1 ∧ c'.trace = p :: c.trace ∧ c'.input = c.input ∧ c'.pulled = c.pulled ∧
      (T.fallible[p]? = some true → failAt = some c.acts →
        ph' = .done (.err (.user (failCode c.acts))))) := by
  cases hs with
  | pull _ nt hn => exact .inl ⟨hn.frame.1, hn.frame.2.1⟩
  | drop t i e dropped sl fe hf _ nt hn => exact .inl ⟨hn.frame.1, hn.frame.2.1⟩
  | redCont _ p ls _ hctx hr =>
    obtain ⟨h1, h2, h3⟩ := hr.cont_acts
    exact .inr ⟨p, h1, h2, hr.cont_io.1, hr.cont_io.2.1, fun ha hb => (h3 ha hb).elim⟩
  | redFin _ p ls _ r hctx hr =>
    rcases hr.fin_acts with ⟨rfl, -⟩ | ⟨h1, h2, h3⟩
    · exact .inl ⟨rfl, rfl⟩
    · refine .inr ⟨p, h1, h2, hr.fin_io.1, hr.fin_io.2.1, fun ha hb => ?_⟩
      rw [h3 ha hb, finOutcome_user]
  | push la e dropped sl fe top hf _ _ hp => exact .inl ⟨hp.io.2.2.2.1, hp.io.2.2.2.2⟩
  | _ => exact .inl ⟨rfl, rfl⟩

/-- with `failAt = some n`: once more than `n` actions ran and the `n`-th one (production
    `trace.reverse[n]`) was fallible, the parse is over with `failCode n` -/
def AErrInv (T : Tables) (n : Nat) (c : Cfg) (ph : Phase) : Prop :=
  c.trace.length = c.acts ∧
  (n < c.acts → ∀ p, c.trace.reverse[n]? = some p → T.fallible[p]? = some true →
    c.acts = n + 1 ∧ ph = .done (.err (.user (failCode n))))

theorem reverse_cons_get {l : List Nat} {p n : Nat} (h : n < l.length) :
    (p :: l).reverse[n]? = l.reverse[n]? := by
  rw [List.reverse_cons, List.getElem?_append_left (by rw [List.length_reverse]; exact h)]

theorem reverse_cons_get_last {l : List Nat} {p : Nat} : (p :: l).reverse[l.length]? = some p := by
  rw [List.reverse_cons, List.getElem?_append_right (by rw [List.length_reverse]; exact Nat.le_refl _),
    List.length_reverse, Nat.sub_self]
  rfl

theorem AErrInv.step {n : Nat} {c c' : Cfg} {ph ph' : Phase} (hf : failAt = some n)
    (h : AErrInv T n c ph) (hs : Step T af failAt startLoc c ph c' ph') : AErrInv T n c' ph' := by
  obtain ⟨hlen, himp⟩ := h
  rcases hs.acts_cases with ⟨h1, h2⟩ | ⟨p', h1, h2, -, -, h3⟩
  · -- no action ran: if the failing one is in the past, the machine is already final
    refine ⟨by rw [h1, h2]; exact hlen, fun hn p hp hfal => ?_⟩
    rw [h1] at hn ⊢
    rw [h2] at hp
    obtain ⟨ha, rfl⟩ := himp hn p hp hfal
    exact ⟨ha, hs.from_done.2⟩
  · refine ⟨by rw [h1, h2, List.length_cons, hlen], fun hn p hp hfal => ?_⟩
    by_cases hlt : n < c.acts
    · rw [h2, reverse_cons_get (hlen ▸ hlt)] at hp
      obtain ⟨-, rfl⟩ := himp hlt p hp hfal
      rw [hs.from_done.1] at h1
      omega
    · have hn' : c.acts = n := by omega
      rw [h2, ← hn', ← hlen, reverse_cons_get_last] at hp
      cases hp
      exact ⟨by omega, hn' ▸ h3 hfal (hn' ▸ hf)⟩

theorem aerr_of_run {n : Nat} (hf : failAt = some n) {input : List Item} {k : Nat} {c : Cfg} {ph : Phase}
    (h : run T af failAt startLoc k (init startLoc input) .pull = (c, ph)) : AErrInv T n c ph :=
  (inv_of_run (AErrInv T n) ⟨rfl, fun h => nomatch h⟩ (fun _ _ _ _ _ hi hs => hi.step hf hs) h).2

end LalrpopModel.LR.Generic
