import LalrpopModel.Lemmas.LRDriver
/-!
C08 termination (tables only): the loop "reduce under lookahead `la`" on a state stack, top first
(`locStep`, `Model/LR/Validate.lean`).

`checkTerm T F = true` (V7, unfolded into `TermOK`) has simulated the loop on `[0]` and on the two
top states of every stack the driver builds (`Adj`: `[0]` at the bottom, every state pushed by a
goto or by a shift entry of the state below). The loop only looks at the states it pops, so on a
whole stack it follows the simulation until a reduction pops through the simulated part, and then
the stack is strictly shorter (`phase_term`): the iterations are paid for by the states they pop,
up to `F` per loop.
-/
namespace LalrpopModel.LR.Term
open LalrpopModel.LR

/-- `n` iterations of the reduce loop lead from `st` to `fin` -/
inductive Iter (T : Tables) (la : LA) : Nat → List Nat → List Nat → Prop
  | refl (st : List Nat) : Iter T la 0 st st
  | step {n : Nat} {st st' fin : List Nat} :
      locStep T la st = .step st' → Iter T la n st' fin → Iter T la (n + 1) st fin

/-- the loop ends on `st`: no reduction of a non-start production applies -/
def Halts (T : Tables) (la : LA) (st : List Nat) : Prop := ∀ st', locStep T la st ≠ .step st'

variable {T : Tables} {la : LA}

theorem Iter.trans {n m : Nat} {a b c : List Nat} (h₁ : Iter T la n a b) (h₂ : Iter T la m b c) :
    Iter T la (n + m) a c := by
  induction h₁ with
  | refl st => simpa using h₂
  | step hs _ ih =>
    rw [Nat.add_right_comm]
    exact .step hs (ih h₂)

theorem Iter.snoc {n : Nat} {a b c : List Nat} (h₁ : Iter T la n a b) (h₂ : locStep T la b = .step c) :
    Iter T la (n + 1) a c :=
  h₁.trans (.step h₂ (.refl c))

theorem locStep_cons (top : Nat) (tl : List Nat) :
    locStep T la (top :: tl) =
      match redInfo T la top with
      | none => .stop
      | some (n, A) =>
        match (top :: tl).drop n with
        | [] => .under
        | below :: more => .step (T.gotoAt below A :: below :: more) :=
  rfl

theorem locStep_of {top : Nat} {tl : List Nat} {n A : Nat} (hr : redInfo T la top = some (n, A)) :
    locStep T la (top :: tl) =
      match (top :: tl).drop n with
      | [] => .under
      | below :: more => .step (T.gotoAt below A :: below :: more) := by
  rw [locStep_cons, hr]

theorem locStep_of_none {top : Nat} {tl : List Nat} (hr : redInfo T la top = none) :
    locStep T la (top :: tl) = .stop := by
  rw [locStep_cons, hr]

theorem halts_of_redInfo_none {top : Nat} {tl : List Nat} (h : redInfo T la top = none) :
    Halts T la (top :: tl) := by
  intro st' hs
  rw [locStep_of_none h] at hs
  cases hs

theorem locStep_step_inv {st st' : List Nat} (h : locStep T la st = .step st') :
    ∃ top tl n A below more, st = top :: tl ∧ redInfo T la top = some (n, A) ∧
      st.drop n = below :: more ∧ st' = T.gotoAt below A :: below :: more := by
  cases st with
  | nil => cases h
  | cons top tl =>
    cases hr : redInfo T la top with
    | none => rw [locStep_of_none hr] at h; cases h
    | some nA =>
      rw [locStep_of hr] at h
      cases hd : (top :: tl).drop nA.1 with
      | nil => rw [hd] at h; cases h
      | cons below more =>
        rw [hd] at h
        cases h
        exact ⟨top, tl, _, _, below, more, rfl, hr, hd, rfl⟩

theorem locStep_append_step {st st' : List Nat} (rest : List Nat) (h : locStep T la st = .step st') :
    locStep T la (st ++ rest) = .step (st' ++ rest) := by
  obtain ⟨top, tl, n, A, below, more, rfl, hr, hd, rfl⟩ := locStep_step_inv h
  have hle : n ≤ (top :: tl).length := by
    apply Nat.le_of_not_lt
    intro hlt
    rw [List.drop_eq_nil_of_le (Nat.le_of_lt hlt)] at hd
    cases hd
  rw [List.cons_append, locStep_of hr, ← List.cons_append, List.drop_append_of_le_length hle, hd]
  rfl

/-- the loop is through with the part `st` of the stack `st ++ rest`: the whole stack halts, or the
    next reduction pops all of `st` and goes on from a suffix of `rest`, with the goto on top -/
inductive PartDone (T : Tables) (la : LA) (st rest : List Nat) : Prop
  | halts : Halts T la (st ++ rest) → PartDone T la st rest
  | through {A k below : Nat} {more : List Nat} : rest.drop k = below :: more →
      locStep T la (st ++ rest) = .step (T.gotoAt below A :: below :: more) → PartDone T la st rest

theorem locStep_append_end {st : List Nat} (rest : List Nat) (hne : st ≠ []) (h : Halts T la st) :
    PartDone T la st rest := by
  cases st with
  | nil => exact (hne rfl).elim
  | cons top tl =>
    cases hr : redInfo T la top with
    | none => exact .halts (halts_of_redInfo_none hr)
    | some nA =>
      -- nothing of `top :: tl` is left after the pop, or the part alone would go on
      have hd : (top :: tl).drop nA.1 = [] := by
        cases hd : (top :: tl).drop nA.1 with
        | nil => rfl
        | cons below more => exact (h _ (by rw [locStep_of hr, hd])).elim
      have heq : (top :: (tl ++ rest)).drop nA.1 = rest.drop (nA.1 - (top :: tl).length) := by
        rw [← List.cons_append, List.drop_append, hd]
        rfl
      cases hd2 : rest.drop (nA.1 - (top :: tl).length) with
      | nil =>
        refine .halts fun st' hs => ?_
        rw [List.cons_append, locStep_of hr, heq, hd2] at hs
        cases hs
      | cons below more =>
        exact .through (A := nA.2) hd2 (by rw [List.cons_append, locStep_of hr, heq, hd2])

/-- a simulation that `simOK` accepts for `st` alone is followed on `st ++ rest`, until the loop is
    through with what has become of `st`: fewer than `f` iterations, fewer than `f` levels added -/
theorem sim_local : ∀ (f : Nat) (st : List Nat), simOK T la f st = true → st ≠ [] → ∀ rest : List Nat,
    ∃ N st'', N < f ∧ st''.length + 1 ≤ st.length + f ∧ Iter T la N (st ++ rest) (st'' ++ rest) ∧
      PartDone T la st'' rest := by
  intro f
  induction f with
  | zero => intro st h; cases h
  | succ f ih =>
    intro st h hne rest
    unfold simOK at h
    cases hl : locStep T la st with
    | step st' =>
      rw [hl] at h
      obtain ⟨top, tl, n, A, below, more, rfl, hr, hd, rfl⟩ := locStep_step_inv hl
      obtain ⟨N, st'', hN, hlen, hit, hfin⟩ := ih _ h (List.cons_ne_nil _ _) rest
      refine ⟨N + 1, st'', Nat.succ_lt_succ hN, ?_, ?_, hfin⟩
      · -- an iteration pops `n ≥ 0` states and pushes one
        have h1 : (below :: more).length ≤ (top :: tl).length := by
          rw [← hd, List.length_drop]
          exact Nat.sub_le _ _
        have := Nat.le_trans hlen (Nat.add_le_add_right (Nat.succ_le_succ h1) f)
        rw [Nat.succ_add] at this
        exact this
      · rw [Nat.add_comm]
        exact Iter.trans (.step (locStep_append_step rest hl) (.refl _)) hit
    | _ =>
      exact ⟨0, st, Nat.succ_pos f, Nat.add_le_add_left (Nat.le_add_left 1 f) _, .refl _,
        locStep_append_end rest hne fun st' hs => by rw [hl] at hs; cases hs⟩

/-- `la` is the end of input or a terminal index -/
def LAok (T : Tables) : LA → Prop
  | none => True
  | some x => x < T.nTerm

theorem mem_allLA {la : LA} (h : LAok T la) : la ∈ allLA T := by
  unfold allLA
  cases la with
  | none => simp
  | some x => simp only [List.mem_cons, List.mem_map, List.mem_range]; right; exact ⟨x, h, rfl⟩

structure TermOK (T : Tables) (F : Nat) : Prop where
  nS_pos : 0 < T.nStates
  err_term : T.usesRecovery = true → 0 < T.nTerm
  eof_le : ∀ a ∈ T.eofAction, a ≤ 0
  shift_lt : ∀ a ∈ T.action, a ≤ 0 ∨ (a - 1).toNat < T.nStates
  goto_lt : ∀ row ∈ T.goto, ∀ s ∈ row, s < T.nStates
  lhs_lt : ∀ p, p < T.prodLhs.length →
    T.isStart.getD p false = true ∨ T.prodLhs.getD p 0 < T.goto.length
  sim0 : ∀ la, LAok T la → simOK T la F [0] = true
  simGoto : ∀ la, LAok T la → ∀ b, b < T.nStates → ∀ A, A < T.goto.length →
    simOK T la F [T.gotoAt b A, b] = true
  simShift : ∀ la, LAok T la → ∀ b, b < T.nStates → ∀ x, x < T.nTerm → ∀ a t,
    T.actionAt b x = some a → asShift a = some t → simOK T la F [t, b] = true

theorem termOK_of_check {F : Nat} (h : checkTerm T F = true) : TermOK T F := by
  simp only [checkTerm, Bool.and_eq_true, List.all_eq_true, decide_eq_true_eq, Bool.or_eq_true,
    List.mem_range, Bool.not_eq_true'] at h
  obtain ⟨⟨⟨⟨⟨⟨h1, h1a⟩, h1b⟩, h2⟩, h3⟩, h4⟩, h5⟩ := h
  refine ⟨h1, ?_, h1b, h2, h3, h4, ?_, ?_, ?_⟩
  · intro hr
    rcases h1a with h | h
    · simp [hr] at h
    · exact h
  · intro la hla
    exact (h5 la (mem_allLA hla)).1
  · intro la hla b hb A hA
    exact ((h5 la (mem_allLA hla)).2 b hb).1 A hA
  · intro la hla b hb x hx a t ha hs
    have := ((h5 la (mem_allLA hla)).2 b hb).2 x hx
    rw [ha] at this
    simp only [hs] at this
    exact this

variable {F : Nat}

theorem TermOK.gotoAt_lt (h : TermOK T F) (b A : Nat) : T.gotoAt b A < T.nStates := by
  unfold Tables.gotoAt
  cases hg : T.goto[A]? with
  | none => exact h.nS_pos
  | some row =>
    simp only
    have hrow : row ∈ T.goto := List.mem_of_getElem? hg
    rw [List.getD_eq_getElem?_getD]
    cases hs : row[b]? with
    | none => exact h.nS_pos
    | some s => exact h.goto_lt row hrow s (List.mem_of_getElem? hs)

theorem TermOK.shift_target_lt (h : TermOK T F) {b x : Nat} {a : Int} {t : Nat}
    (ha : T.actionAt b x = some a) (hs : asShift a = some t) : t < T.nStates := by
  obtain ⟨hpos, rfl⟩ := asShift_some hs
  exact (h.shift_lt a (List.mem_of_getElem? ha)).resolve_left (Int.not_le.mpr hpos)

theorem redInfo_inv {top n A : Nat} (h : redInfo T la top = some (n, A)) :
    ∃ a p, actionFor T top la = some a ∧ asReduce a = some p ∧ T.prodLen[p]? = some n ∧
      T.prodLhs[p]? = some A ∧ T.isStart[p]? = some false := by
  unfold redInfo at h
  split at h
  · rename_i a ha
    split at h
    · rename_i p hp
      split at h
      · rename_i n' A' h1 h2 h3
        cases h
        exact ⟨a, p, ha, hp, h1, h2, h3⟩
      · cases h
    · cases h
  · cases h

theorem TermOK.redInfo_lhs_lt (h : TermOK T F) {top n A : Nat} (hr : redInfo T la top = some (n, A)) :
    A < T.goto.length := by
  obtain ⟨a, p, _, _, _, h2, h3⟩ := redInfo_inv hr
  rcases h.lhs_lt p (List.getElem?_eq_some_iff.mp h2).1 with h4 | h4
  · rw [List.getD_eq_getElem?_getD, h3] at h4
    cases h4
  · rw [List.getD_eq_getElem?_getD, h2] at h4
    exact h4

/-- `t` is what the tables push on top of `b`: a goto, or the target of a shift entry -/
def AdjPair (T : Tables) (b t : Nat) : Prop :=
  (∃ A, A < T.goto.length ∧ t = T.gotoAt b A) ∨
  (∃ x a, x < T.nTerm ∧ T.actionAt b x = some a ∧ asShift a = some t)

inductive Adj (T : Tables) : List Nat → Prop
  | base : Adj T [0]
  | cons {t b : Nat} {more : List Nat} : AdjPair T b t → Adj T (b :: more) → Adj T (t :: b :: more)

theorem Adj.tail {t b : Nat} {more : List Nat} (h : Adj T (t :: b :: more)) : Adj T (b :: more) := by
  cases h with
  | cons _ h => exact h

theorem Adj.drop : ∀ (n : Nat) {st : List Nat} {b : Nat} {more : List Nat}, Adj T st →
    st.drop n = b :: more → Adj T (b :: more)
  | 0, st, b, more, h, hd => (show st = b :: more from hd) ▸ h
  | n + 1, st, b, more, h, hd => by
    cases h with
    | base => simp at hd
    | cons hp h' =>
      rw [List.drop_succ_cons] at hd
      exact Adj.drop n h' hd

theorem Adj.top_lt (hT : TermOK T F) {s : Nat} {rest : List Nat} (h : Adj T (s :: rest)) :
    s < T.nStates := by
  cases h with
  | base => exact hT.nS_pos
  | cons hp _ =>
    rcases hp with ⟨A, _, rfl⟩ | ⟨x, a, _, ha, hs⟩
    · exact hT.gotoAt_lt _ _
    · exact hT.shift_target_lt ha hs

theorem Adj.push_goto {b : Nat} {more : List Nat} (h : Adj T (b :: more))
    {A : Nat} (hA : A < T.goto.length) : Adj T (T.gotoAt b A :: b :: more) :=
  .cons (.inl ⟨A, hA, rfl⟩) h

theorem Adj.push_shift {states rest : List Nat} {top x t : Nat} {a : Int} (h : Adj T states)
    (hs : states = top :: rest) (hx : x < T.nTerm) (ha : T.actionAt top x = some a)
    (hsh : asShift a = some t) : Adj T (t :: states) := by
  subst hs
  exact .cons (.inr ⟨x, a, hx, ha, hsh⟩) h

theorem Adj.locStep (hT : TermOK T F) {st st' : List Nat} (h : Adj T st)
    (hs : locStep T la st = .step st') : Adj T st' := by
  obtain ⟨top, tl, n, A, below, more, rfl, hr, hd, rfl⟩ := locStep_step_inv hs
  exact (Adj.drop n h hd).push_goto (hT.redInfo_lhs_lt hr)

theorem Adj.iter (hT : TermOK T F) {n : Nat} {st fin : List Nat} (h : Adj T st)
    (hi : Iter T la n st fin) : Adj T fin := by
  induction hi with
  | refl => exact h
  | step hs _ ih => exact ih (h.locStep hT hs)

theorem Adj.sim (hT : TermOK T F) (hla : LAok T la) {t b : Nat} {more : List Nat}
    (h : Adj T (t :: b :: more)) : simOK T la F [t, b] = true := by
  have hb : b < T.nStates := h.tail.top_lt hT
  cases h with
  | cons hp _ =>
    rcases hp with ⟨A, hA, rfl⟩ | ⟨x, a, hx, ha, hs⟩
    · exact hT.simGoto la hla b hb A hA
    · exact hT.simShift la hla b hb x hx a t ha hs

/-- `d` is the number of stack levels the loop frees; each pays for `F` iterations. -/
theorem phase_term (hT : TermOK T F) (hla : LAok T la) : ∀ (L : Nat) (st : List Nat), st.length ≤ L →
    Adj T st → ∃ N fin d, Iter T la N st fin ∧ Halts T la fin ∧
      N + 1 ≤ F * (d + 1) ∧ fin.length + d + 1 ≤ st.length + F := by
  intro L
  induction L with
  | zero =>
    intro st hlen h
    cases h with
    | base => cases hlen
    | cons _ _ => cases hlen
  | succ L ih =>
    intro st hlen h
    -- the part of the stack V7 simulated, and the rest
    obtain ⟨part, rest, hst, hpne, hsim, hrest⟩ : ∃ part rest, st = part ++ rest ∧ part ≠ [] ∧
        simOK T la F part = true ∧ (rest = [] ∨ rest.length + 2 ≤ st.length) := by
      cases h with
      | base => exact ⟨[0], [], rfl, by simp, hT.sim0 la hla, .inl rfl⟩
      | @cons t b more hp h' =>
        exact ⟨[t, b], more, rfl, by simp, (Adj.cons hp h').sim hT hla, .inr (Nat.le_refl _)⟩
    obtain ⟨N, st'', hN, hlen'', hit, hfin⟩ := sim_local F part hsim hpne rest
    rw [← hst] at hit
    rcases hfin with hh | @⟨A, k, below, more, hd, hs⟩
    · refine ⟨N, st'' ++ rest, 0, hit, hh, by rw [Nat.zero_add, Nat.mul_one]; exact hN, ?_⟩
      show (st'' ++ rest).length + 1 ≤ st.length + F
      rw [hst, List.length_append, List.length_append, Nat.add_right_comm, Nat.add_right_comm _ _ F]
      exact Nat.add_le_add_right hlen'' _
    · -- one more iteration, then a strictly shorter stack
      have hrest : rest.length + 2 ≤ st.length := by
        rcases hrest with rfl | hrest
        · rw [List.drop_nil] at hd
          cases hd
        · exact hrest
      have h3 : more.length + 3 ≤ st.length := by
        refine Nat.le_trans (Nat.add_le_add_right ?_ 2) hrest
        show (below :: more).length ≤ rest.length
        rw [← hd, List.length_drop]
        exact Nat.sub_le _ _
      have hadj3 : Adj T (T.gotoAt below A :: below :: more) := (h.iter hT hit).locStep hT hs
      obtain ⟨N', fin, d', hit', hh', hN', hl'⟩ :=
        ih _ (Nat.le_of_succ_le_succ (Nat.le_trans h3 hlen)) hadj3
      refine ⟨N + 1 + N', fin, d' + 1, (hit.snoc hs).trans hit', hh', ?_, ?_⟩
      · rw [Nat.mul_succ, Nat.add_assoc, Nat.add_comm (N + 1)]
        exact Nat.add_le_add hN' hN
      · refine Nat.le_trans (Nat.succ_le_succ hl') ?_
        show more.length + 2 + F + 1 ≤ st.length + F
        rw [Nat.add_right_comm]
        exact Nat.add_le_add_right h3 F

end LalrpopModel.LR.Term
