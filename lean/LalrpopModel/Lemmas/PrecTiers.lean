import LalrpopModel.Lemmas.PrecAnnot
/-!
The tiered grammar the book describes, written declaratively (`tiered`), and the lemmas that
relate the tier loop of `expand_nonterm` to it.
-/
namespace LalrpopModel.Prec
open LalrpopModel.PT

/-! ### `sort_unstable(); dedup()` = the strictly ascending list of the distinct levels -/

theorem mem_insertLvl (x y : Nat) (l : List Nat) : y ∈ insertLvl x l ↔ y = x ∨ y ∈ l := by
  induction l with
  | nil => simp [insertLvl]
  | cons z zs ih =>
    simp only [insertLvl]
    split
    · simp
    · split
      · rename_i h1 h2; subst h2; simp
      · simp only [List.mem_cons, ih, or_left_comm]

theorem insertLvl_sorted (x : Nat) (l : List Nat) (h : l.Pairwise (· < ·)) :
    (insertLvl x l).Pairwise (· < ·) := by
  induction l with
  | nil => simp [insertLvl]
  | cons z zs ih =>
    have hz := List.pairwise_cons.mp h
    simp only [insertLvl]
    split
    · rename_i hlt
      refine List.pairwise_cons.mpr ⟨fun a ha => ?_, h⟩
      rcases List.mem_cons.mp ha with rfl | m
      · exact hlt
      · exact Nat.lt_trans hlt (hz.1 a m)
    · split
      · exact h
      · rename_i h1 h2
        refine List.pairwise_cons.mpr ⟨fun a ha => ?_, ih hz.2⟩
        rcases (mem_insertLvl x a zs).mp ha with rfl | m
        · exact Nat.lt_of_le_of_ne (Nat.le_of_not_lt h1) (Ne.symm h2)
        · exact hz.1 a m

theorem mem_sortDedup (y : Nat) (l : List Nat) : y ∈ sortDedup l ↔ y ∈ l := by
  induction l with
  | nil => simp [sortDedup]
  | cons x xs ih => simp [sortDedup, mem_insertLvl, ih]

theorem sortDedup_sorted (l : List Nat) : (sortDedup l).Pairwise (· < ·) := by
  induction l with
  | nil => simp [sortDedup]
  | cons x xs ih => exact insertLvl_sorted x _ ih

/-- which symbol occurrence number `k` (of `n`) of the recursive nonterminal becomes: `left`: the
    first stays on the current level, the others go to the previous one; `right`: the last stays;
    `none`: all go to the previous level; `all`: all stay.  (`prev` is absent only on the lowest
    level, where only `all` is legal; the default is never used then.) -/
def assocPlan (assoc : Assoc) (cur : Sym) (prev : Option Sym) (n : Nat) (k : Nat) : Sym :=
  match assoc with
  | .left => if k = 0 then cur else prev.getD cur
  | .right => if k + 1 = n then cur else prev.getD cur
  | .nonAssoc => prev.getD cur
  | .fullyAssoc => cur

/-- an alternative of a tier: recursive occurrences substituted according to its associativity -/
def tierAlt (target : Str) (cur : Sym) (prev : Option Sym) (a : Ann) : Alt :=
  { a.alt with expr := substAtL target (assocPlan a.assoc cur prev (occL target a.alt.expr)) 0 a.alt.expr }

/-- the tier of level `l` whose predecessor is `prev` -/
def tierOf (nt : Nonterm) (anns : List Ann) (lvlMax : Nat) (prev : Option Nat) (l : Nat) : Nonterm :=
  let name := tierName nt.name lvlMax l
  let prevS := prevSym nt.name prev
  { nt with
    name := name,
    alts := (anns.filter (fun a => a.lvl = l)).map (tierAlt nt.name (.nonterminal name) prevS)
              ++ fallthrough prevS }

/-- consecutive pairs `(none, l₀), (some l₀, l₁), …` -/
def tierPairs (prev : Option Nat) : List Nat → List (Option Nat × Nat)
  | [] => []
  | l :: ls => (prev, l) :: tierPairs (some l) ls

/-- the documented expansion: levels ascending, one nonterminal per level -/
def tiered (nt : Nonterm) (anns : List Ann) : List Nonterm :=
  let lvls := sortDedup (anns.map (·.lvl))
  let lvlMax := (lvls.getLast?).getD 0
  (tierPairs none lvls).map fun pl => tierOf nt anns lvlMax pl.1 pl.2

theorem substFor_plan (assoc : Assoc) (cur : Sym) (prev : Option Sym) (n : Nat)
    (hprev : prev = none → assoc = .fullyAssoc) :
    ∃ subst dir, substFor assoc cur prev = .ok (subst, dir) ∧
      ∀ j, j < n → assocPlan assoc cur prev n j = subst.pick (dir.rank n j) := by
  cases assoc with
  | fullyAssoc => exact ⟨.every cur, .forward, rfl, fun _ _ => rfl⟩
  | left =>
    cases prev with
    | none => cases hprev rfl
    | some p => exact ⟨.oneThen cur p, .forward, rfl, fun j _ => (Subst.pick_oneThen cur p j).symm⟩
  | right =>
    cases prev with
    | none => cases hprev rfl
    | some p =>
      exact ⟨.oneThen cur p, .backward, rfl, fun j hj => (pick_oneThen_backward cur p n j hj).symm⟩
  | nonAssoc =>
    cases prev with
    | none => cases hprev rfl
    | some p => exact ⟨.every p, .forward, rfl, fun _ _ => rfl⟩

theorem substAlts_spec (target : Str) (cur : Sym) (prev : Option Sym) (as : List Ann)
    (hamb : ∀ a ∈ as, noAmbigL a.alt.expr = true) (hprev : prev = none → ∀ a ∈ as, a.assoc = .fullyAssoc) :
    substAlts target cur prev as = .ok (as.map (tierAlt target cur prev)) := by
  induction as with
  | nil => rfl
  | cons a as ih =>
    obtain ⟨subst, dir, hs, hplan⟩ := substFor_plan a.assoc cur prev (occL target a.alt.expr)
      (fun h => hprev h a List.mem_cons_self)
    simp only [substAlts, hs, replaceNonterm,
      replaceSymbols_eq dir target subst _ a.alt.expr (hamb a List.mem_cons_self) hplan,
      ih (fun x hx => hamb x (List.mem_cons_of_mem _ hx)) (fun h x hx => hprev h x (List.mem_cons_of_mem _ hx))]
    rfl

theorem prevSym_none_iff (name : Str) (prev : Option Nat) : prevSym name prev = none ↔ prev = none := by
  cases prev <;> simp [prevSym]

/-- While the levels `lvls` are still to come, `rest` holds the alternatives of `anns` on those
    levels; each iteration takes out those of the first level. -/
theorem expandTiers_spec (nt : Nonterm) (anns : List Ann) (lvlMax : Nat)
    (hamb : ∀ a ∈ anns, noAmbigL a.alt.expr = true) :
    ∀ (lvls : List Nat) (prev : Option Nat),
      lvls.Pairwise (· < ·) →
      (prev = none → ∀ l, lvls.head? = some l → ∀ a ∈ anns, a.lvl = l → a.assoc = .fullyAssoc) →
      expandTiers nt lvlMax prev lvls (anns.filter (fun a => a.lvl ∈ lvls)) =
        .ok ((tierPairs prev lvls).map (fun pl => tierOf nt anns lvlMax pl.1 pl.2), []) := by
  intro lvls
  induction lvls with
  | nil => intro prev _ _; simp [expandTiers, tierPairs]
  | cons l ls ih =>
    intro prev hsorted hlowest
    have hp := List.pairwise_cons.mp hsorted
    have hnot : l ∉ ls := fun m => Nat.lt_irrefl l (hp.1 l m)
    have e1 : (anns.filter (fun a => a.lvl ∈ l :: ls)).filter (fun a => a.lvl = l)
        = anns.filter (fun a => a.lvl = l) := by
      rw [List.filter_filter]
      apply List.filter_congr
      intro a _
      by_cases e : a.lvl = l <;> simp [e]
    have e2 : (anns.filter (fun a => a.lvl ∈ l :: ls)).filter (fun a => ¬ a.lvl = l)
        = anns.filter (fun a => a.lvl ∈ ls) := by
      rw [List.filter_filter]
      apply List.filter_congr
      intro a _
      by_cases e : a.lvl = l <;> simp [e, hnot]
    simp only [expandTiers, expandTier, tierPairs, List.map_cons]
    rw [e1, e2, substAlts_spec nt.name _ (prevSym nt.name prev) _
      (fun a ha => hamb a (List.mem_filter.mp ha).1)
      (fun hn a ha => by
        have hm := List.mem_filter.mp ha
        exact hlowest ((prevSym_none_iff _ _).mp hn) l rfl a hm.1 (of_decide_eq_true hm.2))]
    simp only []
    rw [ih (some l) hp.2 nofun]
    rfl

/-- `expand_nonterm` computes the documented tiers whenever it does not panic for one of the
    modelled reasons: annotations readable, no ambiguous id, only `all` on the lowest level -/
theorem expandNonterm_eq_tiered (nt : Nonterm) (hread : ∀ alt ∈ nt.alts, Readable alt)
    (hne : nt.alts ≠ []) (hamb : ∀ alt ∈ nt.alts, noAmbigL alt.expr = true)
    (hfirst : ∀ a ∈ inherit 0 .fullyAssoc nt.alts,
      (∀ b ∈ inherit 0 .fullyAssoc nt.alts, a.lvl ≤ b.lvl) → a.assoc = .fullyAssoc) :
    expandNonterm nt = .ok (tiered nt (inherit 0 .fullyAssoc nt.alts)) := by
  have hann := annotate_readable 0 .fullyAssoc nt.alts hread
  have hamb := inherit_noAmbig 0 .fullyAssoc nt.alts hamb
  have hne : inherit 0 .fullyAssoc nt.alts ≠ [] := fun e =>
    hne (List.eq_nil_of_length_eq_zero (by rw [← inherit_length 0 .fullyAssoc, e]; rfl))
  generalize inherit 0 .fullyAssoc nt.alts = anns at hann hamb hne hfirst ⊢
  unfold expandNonterm tiered
  simp only [hann]
  have hsorted := sortDedup_sorted (anns.map (·.lvl))
  have hmem : ∀ a ∈ anns, a.lvl ∈ sortDedup (anns.map (·.lvl)) := fun a ha =>
    (mem_sortDedup _ _).mpr (List.mem_map.mpr ⟨a, ha, rfl⟩)
  cases hl : sortDedup (anns.map (·.lvl)) with
  | nil =>
    obtain ⟨a, as, rfl⟩ := List.exists_cons_of_ne_nil hne
    exact absurd (hl ▸ hmem a List.mem_cons_self) List.not_mem_nil
  | cons l ls =>
    rw [List.getLast?_eq_some_getLast (List.cons_ne_nil l ls)]
    simp only [Option.getD_some]
    have hsorted : (l :: ls).Pairwise (· < ·) := hl ▸ hsorted
    have hloop := expandTiers_spec nt anns ((l :: ls).getLast (List.cons_ne_nil l ls)) hamb (l :: ls) none
      hsorted (fun _ l0 h0 a ha hal => hfirst a ha fun b hb => by
        cases h0
        rw [hal]
        rcases List.mem_cons.mp (hl ▸ hmem b hb) with e | m
        · exact Nat.le_of_eq e.symm
        · exact Nat.le_of_lt ((List.pairwise_cons.mp hsorted).1 _ m))
    rw [List.filter_eq_self.mpr fun a ha => decide_eq_true (hl ▸ hmem a ha)] at hloop
    rw [hloop]
    rfl

end LalrpopModel.Prec
