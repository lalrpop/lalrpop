import LalrpopModel.Model.Macro
/-!
Unique readability of the token-level printer (`Sym.toks`, the pieces `Display` writes) on
parser-shaped symbols — used by Props/C13 `canonical_form_injective`.

Shape (what the LALRPOP grammar of grammars produces, after `resolve`):
  S ::= A | `<`A`>` | name`:`A | `mut `name`:`A            (top level of an alternative / group / macro argument)
  A ::= core | A`*` | A`+` | A`?`
  core ::= `(`S … S`)` | "lit" | r"re" | Terminal | Nonterminal | Macro`<`S, …, S`>` | `@L` | `@R` | `!`
(tuple bindings `<(a, b):A>` are not covered).  Identifiers are classified by `cls`
(0 nonterminal, 1 terminal, 2 macro — `resolve` rejects a name declared twice) and a nonterminal or
terminal is not called `error` (which is how `!` prints).

The printer is shown to have a left inverse: `parsePrim`/`parseItems` read a symbol off the front of
a token list, and `parseSym_toks` says that what is read from `s.toks ++ r` is `s`, whenever `r` is
something that may stand behind `s`.
-/

namespace LalrpopModel.Macro

variable (cls : String → Nat)

mutual
/-- `shaped true s`: `s` is an S-level symbol; `shaped false s`: an A-level symbol -/
def shaped : Bool → Sym → Prop
  | top, .choose a => top = true ∧ shaped false a
  | top, .name _ _ a => top = true ∧ shaped false a
  | _, .repeat _ a => shaped false a
  | _, .expr ss => shapedList ss
  | _, .macro n args => cls n = 2 ∧ shapedList args
  | _, .terminal (.quoted _) => True
  | _, .terminal (.regex _) => True
  | _, .terminal (.bare n) => cls n = 1 ∧ n ≠ "error"
  | _, .terminal .error => False
  | _, .nonterminal n => cls n = 0 ∧ n ≠ "error"
  | _, .lookahead => True
  | _, .lookbehind => True
  | _, .error => True
  | _, .tuple _ _ => False
  | _, .ambiguous _ => False
def shapedList : List Sym → Prop
  | [] => True
  | s :: ss => shaped true s ∧ shapedList ss
end

theorem shaped_weaken {s : Sym} (h : shaped cls false s) : shaped cls true s := by
  cases s with
  | choose a => exact absurd h.1 Bool.false_ne_true
  | name m n a => exact absurd h.1 Bool.false_ne_true
  | terminal t => cases t <;> exact h
  | _ => exact h

/-- the tokens that end a symbol: separators and closing brackets -/
def closes : Tok → Bool
  | .sp | .comma | .rparen | .rangle => true
  | _ => false

/-- What may stand behind a symbol: not `<` or `:` (which continue an identifier to a macro use or
    a binding), and behind a binding (`top = true`) no repetition operator: `n:a*` binds `a*`. -/
def Follow (top : Bool) (r : List Tok) : Prop :=
  (∀ ts, r ≠ .langle :: ts) ∧ (∀ ts, r ≠ .colon :: ts) ∧ (top = true → ∀ o ts, r ≠ .op o :: ts)

theorem follow_nil (top : Bool) : Follow top [] :=
  ⟨fun _ => (List.cons_ne_nil _ _).symm, fun _ => (List.cons_ne_nil _ _).symm,
    fun _ _ _ => (List.cons_ne_nil _ _).symm⟩

theorem cons_ne {t t' : Tok} (h : t = t' → False) (r ts : List Tok) : t :: r ≠ t' :: ts :=
  fun e => h (List.cons.inj e).1

theorem follow_op (o : RepeatOp) (r : List Tok) : Follow false (.op o :: r) :=
  ⟨cons_ne (fun e => Tok.noConfusion e) r, cons_ne (fun e => Tok.noConfusion e) r,
    fun e => Bool.noConfusion e⟩

theorem follow_closes {t : Tok} (h : closes t = true) (top : Bool) (r : List Tok) :
    Follow top (t :: r) := by
  cases t with
  | sp | comma | rparen | rangle =>
    exact ⟨cons_ne (fun e => Tok.noConfusion e) r, cons_ne (fun e => Tok.noConfusion e) r,
      fun _ _ => cons_ne (fun e => Tok.noConfusion e) r⟩
  | _ => cases h

def eatOps (c : Sym) : List Tok → Sym × List Tok
  | .op o :: ts => eatOps (.repeat o c) ts
  | ts => (c, ts)

theorem eatOps_follow {r : List Tok} (h : Follow true r) (c : Sym) : eatOps c r = (c, r) := by
  unfold eatOps
  split
  · exact absurd rfl (h.2.2 rfl _ _)
  · rfl

def withOps (p : Option (Sym × List Tok)) : Option (Sym × List Tok) :=
  p.map fun p => eatOps p.1 p.2

/-- an identifier standing alone: `resolve` has told terminals from nonterminals -/
def leafOf (n : String) : Sym :=
  if n = "error" then .error else if cls n = 1 then .terminal (.bare n) else .nonterminal n

def closeAngle : Option (Sym × List Tok) → Option (Sym × List Tok)
  | some (a, .rangle :: r) => some (.choose a, r)
  | _ => none

def bindTo (m : Bool) (n : String) (p : Option (Sym × List Tok)) : Option (Sym × List Tok) :=
  p.map fun p => (.name m n p.1, p.2)

def afterIdent (n : String) (binding macroArgs : List Tok → Option (Sym × List Tok)) :
    List Tok → Option (Sym × List Tok)
  | .colon :: ts => binding ts
  | .langle :: ts => macroArgs ts
  | ts => some (leafOf cls n, ts)

def closeList (term : Tok) : List Tok → Option (List Sym × List Tok)
  | t :: r => if t = term then some ([], r) else none
  | [] => none

/-- a separated list after the attempt to read an item: where no symbol can be read the list is
    over -/
def nextItem (more : List Tok → Option (List Sym × List Tok)) (sep term : Tok) (ts : List Tok) :
    Option (Sym × List Tok) → Option (List Sym × List Tok)
  | none => closeList term ts
  | some (s, t :: r) =>
    if t = term then some ([s], r)
    else if t = sep then (more r).map fun p => (s :: p.1, p.2)
    else none
  | some (_, []) => none

mutual
/-- a symbol without the operators behind it; the fuel bounds the nesting -/
def parsePrim : Nat → List Tok → Option (Sym × List Tok)
  | 0, _ => none
  | _ + 1, .strLit q :: ts => some (.terminal (.quoted q), ts)
  | _ + 1, .regexLit q :: ts => some (.terminal (.regex q), ts)
  | _ + 1, .lookahead :: ts => some (.lookahead, ts)
  | _ + 1, .lookbehind :: ts => some (.lookbehind, ts)
  | f + 1, .lparen :: ts => (parseItems f .sp .rparen ts).map fun p => (.expr p.1, p.2)
  | f + 1, .langle :: ts => closeAngle (withOps (parsePrim f ts))
  | f + 1, .mutKw :: .ident n :: .colon :: ts => bindTo true n (withOps (parsePrim f ts))
  | f + 1, .ident n :: ts =>
    afterIdent cls n (fun ts => bindTo false n (withOps (parsePrim f ts)))
      (fun ts => (parseItems f .comma .rangle ts).map fun p => (.macro n p.1, p.2)) ts
  | _ + 1, _ => none
/-- symbols separated by `sep` up to `term` -/
def parseItems : Nat → Tok → Tok → List Tok → Option (List Sym × List Tok)
  | 0, _, _, _ => none
  | f + 1, sep, term, ts => nextItem (parseItems f sep term) sep term ts (withOps (parsePrim f ts))
end

theorem parsePrim_closes {t : Tok} (h : closes t = true) (f : Nat) (ts : List Tok) :
    parsePrim cls f (t :: ts) = none := by
  cases t with
  | sp | comma | rparen | rangle => cases f <;> rfl
  | _ => cases h

theorem parsePrim_leaf {top : Bool} {r : List Tok} (h : Follow top r) (f : Nat) {n : String}
    {s : Sym} (hs : leafOf cls n = s) :
    withOps (parsePrim cls (f + 1) (.ident n :: r)) = some (eatOps s r) := by
  subst hs
  refine congrArg withOps (?_ : _ = some (leafOf cls n, r))
  show afterIdent cls n _ _ r = _
  unfold afterIdent
  split
  · exact absurd rfl (h.2.1 _)
  · exact absurd rfl (h.1 _)
  · rfl

mutual
/-- the fuel the reader needs -/
def Sym.size : Sym → Nat
  | .expr ss => sizeList ss + 1
  | .macro _ args => sizeList args + 1
  | .repeat _ s => s.size
  | .choose s => s.size + 1
  | .name _ _ s => s.size + 1
  | _ => 0
def sizeList : List Sym → Nat
  | [] => 0
  | s :: ss => s.size + sizeList ss + 1
end

theorem toksSp_eq : ∀ ss, Sym.toksSp ss = sepBy .sp (ss.map Sym.toks)
  | [] => rfl
  | [_] => rfl
  | s :: t :: rest => congrArg (s.toks ++ .sp :: ·) (toksSp_eq (t :: rest))

theorem toksComma_eq : ∀ ss, Sym.toksComma ss = sepBy .comma (ss.map Sym.toks)
  | [] => rfl
  | [_] => rfl
  | s :: t :: rest => congrArg (s.toks ++ .comma :: ·) (toksComma_eq (t :: rest))

theorem fuel_pred : ∀ {n f : Nat}, n + 1 ≤ f → ∃ f', f = f' + 1 ∧ n ≤ f'
  | _, f' + 1, h => ⟨f', rfl, Nat.le_of_succ_le_succ h⟩

-- In each case the reader's clause for the first token applies by computation; the equation
-- for what it calls (`this`) is carried through the clause by `congrArg`.
mutual
/-- **the reader inverts the printer.**  The result is `eatOps s r`, not `(s, r)`: `r` may begin with
    repetition operators (unless `top`), and then the symbol read is `s` with those applied.  That
    makes `a*` an instance of the statement for `a`, with the operator moved into `r`. -/
theorem parseSym_toks (s : Sym) (top : Bool) (h : shaped cls top s) (f : Nat) (hf : s.size ≤ f)
    (r : List Tok) (hr : Follow top r) :
    withOps (parsePrim cls (f + 1) (s.toks ++ r)) = some (eatOps s r) := by
  cases s with
  | «repeat» op a =>
    have := parseSym_toks a false h f hf (.op op :: r) (follow_op op r)
    rw [show (Sym.repeat op a).toks ++ r = a.toks ++ .op op :: r from List.append_assoc ..]
    exact this
  | choose a =>
    obtain ⟨f, rfl, hf'⟩ := fuel_pred hf
    have := parseSym_toks a false h.2 f hf' (.rangle :: r) (follow_closes rfl _ _)
    rw [show (Sym.choose a).toks ++ r = .langle :: (a.toks ++ .rangle :: r) from
      congrArg (Tok.langle :: ·) (List.append_assoc ..)]
    exact congrArg (fun p => withOps (closeAngle p)) this
  | name m n a =>
    obtain ⟨f, rfl, hf'⟩ := fuel_pred hf
    have hr : Follow true r := h.1 ▸ hr
    have := parseSym_toks a false h.2 f hf' r ⟨hr.1, hr.2.1, fun e => Bool.noConfusion e⟩
    rw [eatOps_follow hr] at this
    cases m
    · exact congrArg (fun p => withOps (bindTo false n p)) this
    · exact congrArg (fun p => withOps (bindTo true n p)) this
  | expr ss =>
    obtain ⟨f, rfl, hf'⟩ := fuel_pred hf
    have := parseItems_toks ss h f hf' .sp .rparen rfl rfl (fun e => Tok.noConfusion e) r
    rw [show (Sym.expr ss).toks ++ r = .lparen :: (Sym.toksSp ss ++ .rparen :: r) from
      congrArg (Tok.lparen :: ·) (List.append_assoc ..), toksSp_eq]
    exact congrArg (fun p => withOps (p.map fun p => (Sym.expr p.1, p.2))) this
  | «macro» n args =>
    obtain ⟨f, rfl, hf'⟩ := fuel_pred hf
    have := parseItems_toks args h.2 f hf' .comma .rangle rfl rfl (fun e => Tok.noConfusion e) r
    rw [show (Sym.macro n args).toks ++ r = .ident n :: .langle :: (Sym.toksComma args ++ .rangle :: r)
      from congrArg (fun x => Tok.ident n :: Tok.langle :: x) (List.append_assoc ..), toksComma_eq]
    exact congrArg (fun p => withOps (p.map fun p => (Sym.macro n p.1, p.2))) this
  | terminal t =>
    cases t with
    | quoted _ | regex _ => rfl
    | bare n => exact parsePrim_leaf cls hr f ((if_neg h.2).trans (if_pos h.1))
    | error => exact h.elim
  | lookahead | lookbehind => rfl
  | nonterminal n =>
    exact parsePrim_leaf cls hr f ((if_neg h.2).trans (if_neg (h.1 ▸ Nat.zero_ne_one)))
  | error => exact parsePrim_leaf cls hr f (if_pos rfl)
  | tuple _ _ | ambiguous _ => exact h.elim
theorem parseItems_toks (ss : List Sym) (h : shapedList cls ss) (f : Nat) (hf : sizeList ss ≤ f)
    (sep term : Tok) (hsep : closes sep = true) (hterm : closes term = true) (hne : sep ≠ term)
    (r : List Tok) :
    parseItems cls (f + 1) sep term (sepBy sep (ss.map Sym.toks) ++ term :: r) = some (ss, r) := by
  cases ss with
  | nil =>
    have : withOps (parsePrim cls f (term :: r)) = none :=
      congrArg withOps (parsePrim_closes cls hterm f r)
    exact (congrArg (nextItem _ sep term (term :: r)) this).trans (if_pos rfl)
  | cons s rest =>
    obtain ⟨f, rfl, hf'⟩ := fuel_pred hf
    cases rest with
    | nil =>
      have hr := follow_closes hterm true r
      have := parseSym_toks s true h.1 f hf' _ hr
      rw [eatOps_follow hr] at this
      exact (congrArg (nextItem _ sep term _) this).trans (if_pos rfl)
    | cons t rest =>
      have hr := follow_closes hsep true (sepBy sep ((t :: rest).map Sym.toks) ++ term :: r)
      have := parseSym_toks s true h.1 f (Nat.le_of_add_right_le hf') _ hr
      rw [eatOps_follow hr] at this
      have ih := parseItems_toks (t :: rest) h.2 f (Nat.le_trans (Nat.le_add_left ..) hf') sep term
        hsep hterm hne r
      rw [show sepBy sep ((s :: t :: rest).map Sym.toks) ++ term :: r =
        s.toks ++ sep :: (sepBy sep ((t :: rest).map Sym.toks) ++ term :: r) from List.append_assoc ..]
      refine (congrArg (nextItem _ sep term _) this).trans ?_
      simp only [nextItem, hne, if_false, if_true, ih]
      rfl
end

end LalrpopModel.Macro
