import LalrpopModel.Model.LR.Basic
/-!
Valid-prefix properties (C04/C05): the vocabulary. Prefixes of sentences of the grammar, on
terminal strings (`IsSentencePrefix`) and on token lists (`KindsPrefix`, `KindsSentence`).
-/
namespace LalrpopModel.LR

/-- `u` is a prefix of some sentence of `S` -/
def IsSentencePrefix (G : Grammar) (S : NT) (u : List Term) : Prop := ∃ z, Derives G S (u ++ z)

/-- the kinds of `toks` are terminals and form a prefix of some sentence of `S`
    (a token without kind — no pattern matches — is never part of a sentence) -/
def KindsPrefix (G : Grammar) (S : NT) (toks : List Tok) : Prop :=
  ∃ u, toks.map (·.kind) = u.map some ∧ IsSentencePrefix G S u

/-- the kinds of `toks` are terminals and form a sentence of `S` -/
def KindsSentence (G : Grammar) (S : NT) (toks : List Tok) : Prop :=
  ∃ w, toks.map (·.kind) = w.map some ∧ Derives G S w

theorem KindsPrefix.take {G : Grammar} {S : NT} {toks : List Tok} (h : KindsPrefix G S toks) (j : Nat) :
    KindsPrefix G S (toks.take j) := by
  obtain ⟨u, hu, z, hd⟩ := h
  refine ⟨u.take j, by rw [List.map_take, hu, List.map_take], u.drop j ++ z, ?_⟩
  rwa [← List.append_assoc, List.take_append_drop]

theorem KindsPrefix.of_take_le {G : Grammar} {S : NT} {toks : List Tok} {i j : Nat} (hij : i ≤ j)
    (h : KindsPrefix G S (toks.take j)) : KindsPrefix G S (toks.take i) := by
  have := h.take i
  rwa [List.take_take, Nat.min_eq_left hij] at this

theorem KindsSentence.prefix {G : Grammar} {S : NT} {toks : List Tok} (h : KindsSentence G S toks) :
    KindsPrefix G S toks := by
  obtain ⟨w, hw, hd⟩ := h
  exact ⟨w, hw, [], by rwa [List.append_nil]⟩

/-- a token of kind `a` (spans and identity are irrelevant for acceptance) -/
def mkTok (a : Term) : Tok := { l := 0, kind := some a, id := 0, r := 0 }

theorem map_kind_mkTok (z : List Term) : (z.map mkTok).map (·.kind) = z.map some := by
  rw [List.map_map]
  rfl

theorem kindsPrefix_snoc {G : Grammar} {S : NT} {l : List Tok} {a : Term} :
    KindsPrefix G S (l ++ [mkTok a]) ↔ ∃ u, l.map (·.kind) = u.map some ∧ IsSentencePrefix G S (u ++ [a]) := by
  constructor
  · rintro ⟨u', hu', hp⟩
    rw [List.map_append, List.map_cons, List.map_nil, eq_comm, List.map_eq_append_iff] at hu'
    obtain ⟨u, v, rfl, hu, hv⟩ := hu'
    obtain ⟨b, rfl, hb⟩ := List.map_eq_singleton_iff.mp hv
    cases hb
    exact ⟨u, hu.symm, hp⟩
  · rintro ⟨u, hu, hp⟩
    exact ⟨u ++ [a], by rw [List.map_append, List.map_append, hu]; rfl, hp⟩

end LalrpopModel.LR
