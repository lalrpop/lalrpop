import LalrpopModel.Model.LR.Validate
/-!
The decoding of action codes (`asShift`, `asReduce`), one iteration of `accepts` by the kind of action
found, and the panics of `expected`. The lookahead-indexed action is `actionFor` of
`Model/LR/Validate.lean`, whence the import.
-/
namespace LalrpopModel.LR

theorem asReduce_some {a : Int} {p : Nat} (h : asReduce a = some p) : a < 0 ∧ p = (-(a + 1)).toNat := by
  simp only [asReduce] at h
  split at h
  · cases h; exact ⟨‹_›, rfl⟩
  · cases h

theorem asShift_some {a : Int} {s : Nat} (h : asShift a = some s) : 0 < a ∧ s = (a - 1).toNat := by
  simp only [asShift] at h
  split at h
  · cases h; exact ⟨‹_›, rfl⟩
  · cases h

theorem asShift_pos {a : Int} (h : a > 0) : asShift a = some (a - 1).toNat := if_pos h

theorem asShift_neg (p : Nat) : asShift (-((p : Int) + 1)) = none :=
  if_neg (by omega)

theorem asReduce_neg (p : Nat) : asReduce (-((p : Int) + 1)) = some p := by
  rw [asReduce, if_pos (by omega)]
  congr 1
  omega

theorem asReduce_eq_some {a : Int} {p : Nat} (h : asReduce a = some p) : a = -((p : Int) + 1) := by
  obtain ⟨hneg, rfl⟩ := asReduce_some h
  omega

theorem asShift_of_asReduce {a : Int} {p : Nat} (h : asReduce a = some p) : asShift a = none :=
  if_neg (Int.lt_asymm (asReduce_some h).1)

theorem asReduce_of_asShift {a : Int} {s : Nat} (h : asShift a = some s) : asReduce a = none :=
  if_neg (Int.lt_asymm (asShift_some h).1)

/-- the driver's test `states.len() < n` fails when popping `n` states leaves one -/
theorem not_length_lt_of_drop {α : Type} {l m : List α} {n : Nat} {b : α} (h : l.drop n = b :: m) :
    ¬ l.length < n :=
  fun hl => List.cons_ne_nil b m (h ▸ List.drop_eq_nil_of_le (Nat.le_of_lt hl))

variable (T : Tables)

theorem accepts_succ (af top : Nat) (rest : List Nat) (o : Option Term) :
    accepts T (af + 1) (top :: rest) o =
      match actionFor T top o with
      | none => .error .actionIndex
      | some a =>
        if a = 0 then .ok false
        else match asReduce a with
          | some p =>
            match T.prodLen[p]?, T.prodLhs[p]?, T.isStart[p]? with
            | some n, some A, some st =>
              if st then .ok true
              else if (top :: rest).length < n then .error .statesUnderflow
              else
                match (top :: rest).drop n with
                | [] => .error .emptyStates
                | below :: more => accepts T af (T.gotoAt below A :: below :: more) o
            | _, _, _ => .error .invalidAction
          | none => .ok true := by
  cases o <;> rfl

theorem accepts_zero {top : Nat} {o : Option Term} (rest : List Nat) (af : Nat)
    (h : actionFor T top o = some 0) : accepts T (af + 1) (top :: rest) o = .ok false := by
  rw [accepts_succ, h]
  rfl

/-- neither the error action nor a reduction: a shift, under a terminal -/
theorem accepts_shift {top : Nat} {o : Option Term} {a : Int} (rest : List Nat) (af : Nat)
    (h : actionFor T top o = some a) (h0 : a ≠ 0) (hr : asReduce a = none) :
    accepts T (af + 1) (top :: rest) o = .ok true := by
  rw [accepts_succ, h]
  simp only [if_neg h0, hr]

theorem accepts_start {top p n A : Nat} {a : Int} {o : Option Term} (rest : List Nat) (af : Nat)
    (h : actionFor T top o = some a) (hr : asReduce a = some p) (hn : T.prodLen[p]? = some n)
    (hA : T.prodLhs[p]? = some A) (hst : T.isStart[p]? = some true) :
    accepts T (af + 1) (top :: rest) o = .ok true := by
  rw [accepts_succ, h]
  simp only [if_neg (Int.ne_of_lt (asReduce_some hr).1), hr, hn, hA, hst, if_true]

theorem accepts_reduce {top p n A below : Nat} {a : Int} {rest more : List Nat} {o : Option Term} (af : Nat)
    (h : actionFor T top o = some a) (hr : asReduce a = some p) (hn : T.prodLen[p]? = some n)
    (hA : T.prodLhs[p]? = some A) (hst : T.isStart[p]? = some false)
    (hd : (top :: rest).drop n = below :: more) :
    accepts T (af + 1) (top :: rest) o = accepts T af (T.gotoAt below A :: below :: more) o := by
  rw [accepts_succ, h]
  simp only [if_neg (Int.ne_of_lt (asReduce_some hr).1), hr, hn, hA, hst, Bool.false_eq_true, if_false,
    if_neg (not_length_lt_of_drop hd), hd]

theorem nRepr_le : T.nRepr ≤ T.nTerm := by
  unfold Tables.nRepr
  split
  · exact Nat.sub_le _ _
  · exact Nat.le_refl _

/-- a panic of `__expected_tokens_from_states` is a panic of one of its `__accepts` calls -/
theorem expectedLoop_error {af : Nat} {states : List Nat} {e : PanicTag} : ∀ (k i : Nat),
    expectedLoop T af states k i = .error e →
    ∃ j, i ≤ j ∧ j < i + k ∧ accepts T af states (some j) = .error e
  | 0, _, h => nomatch h
  | k + 1, i, h => by
    unfold expectedLoop at h
    split at h
    · rename_i e' he
      cases h
      exact ⟨i, Nat.le_refl _, Nat.lt_add_of_pos_right (Nat.succ_pos k), he⟩
    · split at h
      · rename_i e' he
        cases h
        obtain ⟨j, h1, h2, hj⟩ := expectedLoop_error k (i + 1) he
        rw [Nat.add_right_comm, Nat.add_assoc] at h2
        exact ⟨j, Nat.le_of_succ_le h1, h2, hj⟩
      · cases h

theorem expected_error {af : Nat} {states : List Nat} {e : PanicTag} (h : expected T af states = .error e) :
    ∃ j, j < T.nTerm ∧ accepts T af states (some j) = .error e := by
  obtain ⟨j, _, hj, hacc⟩ := expectedLoop_error T _ _ h
  exact ⟨j, Nat.lt_of_lt_of_le (Nat.zero_add T.nRepr ▸ hj) (nRepr_le T), hacc⟩

end LalrpopModel.LR
