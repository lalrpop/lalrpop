import LalrpopModel.Model.C18FileText
/-!
Facts about the arithmetic model of `file_text.rs`: the newline table is well formed, `line_col`
is total and correct, `highlight` never underflows or slices out of range for `lo ≤ hi`.
-/
namespace LalrpopModel.FileText

theorem nlFrom_bounds (bs : List UInt8) (i : Nat) : ∀ x ∈ nlFrom bs i, i < x ∧ x ≤ i + bs.length := by
  induction bs generalizing i with
  | nil => exact fun _ hx => (nomatch hx)
  | cons b bs ih =>
    have tail : ∀ x ∈ nlFrom bs (i + 1), i < x ∧ x ≤ i + (b :: bs).length := fun x hx =>
      ⟨Nat.lt_of_succ_lt (ih (i + 1) x hx).1, Nat.add_right_comm i 1 _ ▸ (ih (i + 1) x hx).2⟩
    intro x hx
    simp only [nlFrom] at hx
    split at hx
    · rcases List.mem_cons.mp hx with rfl | m
      · exact ⟨Nat.lt_succ_self i, Nat.add_le_add_left (Nat.succ_pos _) i⟩
      · exact tail x m
    · exact tail x hx

theorem nlFrom_sorted (bs : List UInt8) (i : Nat) : (nlFrom bs i).Pairwise (· < ·) := by
  induction bs generalizing i with
  | nil => simp [nlFrom]
  | cons b bs ih =>
    simp only [nlFrom]
    split
    · exact List.pairwise_cons.mpr ⟨fun x hx => (nlFrom_bounds bs (i + 1) x hx).1, ih (i + 1)⟩
    · exact ih (i + 1)

/-- what `line_col`/`highlight` rely on: first entry 0, strictly increasing, entries within the text -/
structure WF (nl : List Nat) (len : Nat) : Prop where
  head : ∃ rest, nl = 0 :: rest
  sorted : nl.Pairwise (· < ·)
  bound : ∀ x ∈ nl, x ≤ len

theorem newlines_wf (bs : List UInt8) : WF (newlines bs) bs.length := by
  refine ⟨⟨_, rfl⟩, ?_, ?_⟩
  · exact List.pairwise_cons.mpr ⟨fun x hx => (nlFrom_bounds bs 0 x hx).1, nlFrom_sorted bs 0⟩
  · intro x hx
    rcases List.mem_cons.mp hx with rfl | m
    · exact Nat.zero_le _
    · exact Nat.le_trans (nlFrom_bounds bs 0 x m).2 (Nat.le_of_eq (Nat.zero_add _))

theorem csub_of_le {a b : Nat} (h : b ≤ a) : csub a b = some (a - b) := if_pos h

theorem csub_succ_one (a : Nat) : csub (a + 1) 1 = some a := if_pos (Nat.succ_pos a)

/-- `firstGreater` skips the `c` leading entries that are `≤ pos`; entry `c`, if there is one, is
    greater.  The result is stated with `num_lines` for "not found": `line_col`'s
    `.map(|i| i - 1).unwrap_or(num_lines - 1)` is one less than that in either case. -/
theorem firstGreater_spec (xs : List Nat) (pos i : Nat) :
    ∃ c, c ≤ xs.length ∧ (∀ m x, m < c → xs[m]? = some x → x ≤ pos) ∧ (∀ e, xs[c]? = some e → pos < e) ∧
      (firstGreater xs pos i).getD (i + xs.length) = i + c := by
  induction xs generalizing i with
  | nil => exact ⟨0, Nat.le_refl _, fun _ _ h => (nomatch h), fun _ h => (nomatch h), rfl⟩
  | cons x xs ih =>
    rw [firstGreater]
    by_cases hgt : x > pos
    · rw [if_pos hgt]
      exact ⟨0, Nat.zero_le _, fun _ _ h => (nomatch h), fun e he => Option.some.inj he ▸ hgt, rfl⟩
    · obtain ⟨c, hcl, hle, hlt, hc⟩ := ih (i + 1)
      rw [if_neg hgt]
      refine ⟨c + 1, Nat.succ_le_succ hcl, ?_, hlt, ?_⟩
      · intro m y hm hy
        cases m with
        | zero => cases hy; exact Nat.le_of_not_lt hgt
        | succ m => exact hle m y (Nat.lt_of_succ_lt_succ hm) hy
      · rw [Nat.add_right_comm i 1 xs.length, Nat.add_right_comm i 1 c] at hc
        exact hc

theorem sorted_get_lt (nl : List Nat) (hs : nl.Pairwise (· < ·)) (i j : Nat) (a b : Nat)
    (hij : i < j) (ha : nl[i]? = some a) (hb : nl[j]? = some b) : a < b := by
  obtain ⟨hj, rfl⟩ := List.getElem?_eq_some_iff.mp hb
  obtain ⟨hi, rfl⟩ := List.getElem?_eq_some_iff.mp ha
  exact List.pairwise_iff_getElem.mp hs i j hi hj hij

theorem sorted_get_le (nl : List Nat) (hs : nl.Pairwise (· < ·)) (i j : Nat) (a b : Nat)
    (hij : i ≤ j) (ha : nl[i]? = some a) (hb : nl[j]? = some b) : a ≤ b := by
  rcases Nat.eq_or_lt_of_le hij with rfl | hlt
  · cases ha.symm.trans hb; exact Nat.le_refl _
  · exact Nat.le_of_lt (sorted_get_lt nl hs i j a b hlt ha hb)

/-- **`line_col` is total and correct**: for every position, the line found is in range, starts at
or before the position, and the next line (if any) starts after it; the column is the distance. -/
theorem lineCol_spec (nl : List Nat) (len : Nat) (h : WF nl len) (pos : Nat) :
    ∃ l off, lineCol nl pos = some (l, pos - off) ∧ nl[l]? = some off ∧ off ≤ pos ∧
      (∀ e, nl[l + 1]? = some e → pos < e) := by
  obtain ⟨rest, hnl⟩ := h.head
  obtain ⟨c, hcl, hle, hlt, hc⟩ := firstGreater_spec nl pos 0
  -- the first entry is `0 ≤ pos`, so at least one entry is skipped: `c = l + 1`
  cases c with
  | zero => exact absurd (hlt 0 (hnl ▸ rfl)) (Nat.not_lt_zero _)
  | succ l =>
    have hget : nl[l]? = some nl[l] := List.getElem?_eq_getElem hcl
    have hoff : nl[l] ≤ pos := hle l _ (Nat.lt_succ_self l) hget
    refine ⟨l, nl[l], ?_, hget, hoff, hlt⟩
    rw [Nat.zero_add, Nat.zero_add] at hc
    unfold lineCol
    cases hfg : firstGreater nl pos 0 with
    | none =>
      rw [hfg] at hc
      simp only [show nl.length = l + 1 from hc, csub_succ_one, hget, csub_of_le hoff]
    | some i =>
      rw [hfg] at hc
      simp only [show i = l + 1 from hc, csub_succ_one, hget, csub_of_le hoff]

/-- `line_text(n)` slices in range for every line number in range; a line that is not the last one
    has length `next start - 1 - start` -/
theorem lineLen_total (nl : List Nat) (len : Nat) (h : WF nl len) (n start : Nat) (hn : nl[n]? = some start) :
    ∃ L, lineLen nl len n = some L ∧ (∀ e, nl[n + 1]? = some e → L = e - 1 - start) := by
  have hlt : n < nl.length := (List.getElem?_eq_some_iff.mp hn).1
  obtain ⟨k, hk⟩ : ∃ k, nl.length = k + 1 := ⟨nl.length - 1, (Nat.sub_add_cancel (Nat.zero_lt_of_lt hlt)).symm⟩
  unfold lineLen
  simp only [hn, hk, csub_succ_one]
  by_cases hl : n = k
  · rw [if_pos hl, csub_of_le (h.bound start (List.mem_of_getElem? hn))]
    refine ⟨_, rfl, fun e he => ?_⟩
    exact absurd (List.getElem?_eq_some_iff.mp he).1 (by rw [hk, hl]; exact Nat.lt_irrefl _)
  · rw [if_neg hl]
    have hlt2 : n + 1 < nl.length := by
      rw [hk] at hlt ⊢
      exact Nat.succ_lt_succ (Nat.lt_of_le_of_ne (Nat.le_of_lt_succ hlt) hl)
    obtain ⟨e, he⟩ : ∃ e, nl[n + 1]? = some e := ⟨_, List.getElem?_eq_getElem hlt2⟩
    have hlt3 : start < e := sorted_get_lt nl h.sorted n (n + 1) _ _ (Nat.lt_succ_self n) hn he
    obtain ⟨e1, rfl⟩ : ∃ e1, e = e1 + 1 := ⟨e - 1, (Nat.sub_add_cancel (Nat.zero_lt_of_lt hlt3)).symm⟩
    simp only [he, csub_succ_one, csub_of_le (Nat.le_of_lt_succ hlt3)]
    exact ⟨_, rfl, fun e' he' => by cases he'; rfl⟩

theorem lineLens_total (nl : List Nat) (len : Nat) (h : WF nl len) :
    ∀ (k from_ : Nat), from_ + k ≤ nl.length → ∃ ls, lineLens nl len from_ k = some ls := by
  intro k
  induction k with
  | zero => exact fun _ _ => ⟨[], rfl⟩
  | succ k ih =>
    intro from_ hle
    have hlt : from_ < nl.length := Nat.lt_of_lt_of_le (Nat.lt_add_of_pos_right (Nat.succ_pos k)) hle
    obtain ⟨L, hL, _⟩ := lineLen_total nl len h from_ _ (List.getElem?_eq_getElem hlt)
    obtain ⟨ls, hls⟩ := ih (from_ + 1) (Nat.add_right_comm from_ 1 k ▸ hle)
    exact ⟨L :: ls, by simp only [lineLens, hL, hls]⟩

theorem le_foldl_max (xs : List Nat) (a : Nat) : a ≤ xs.foldl max a := by
  induction xs generalizing a with
  | nil => exact Nat.le_refl a
  | cons x xs ih => exact Nat.le_trans (Nat.le_max_left a x) (ih (max a x))

/-- **`highlight` never underflows or slices out of range**: for the newline table of any text and
any span with `lo ≤ hi` (positions may even lie beyond the text), every `usize` subtraction, index
and `unwrap` of `line_col`, `line_text` and `highlight` succeeds. -/
theorem highlightArith_wf (nl : List Nat) (len : Nat) (h : WF nl len) (lo hi : Nat) (hle : lo ≤ hi) :
    highlightArith nl len lo hi = some () := by
  obtain ⟨sl, offS, hcS, hgS, hoS, hnS⟩ := lineCol_spec nl len h lo
  obtain ⟨el, offE, hcE, hgE, hoE, hnE⟩ := lineCol_spec nl len h hi
  obtain ⟨L, hL, hLe⟩ := lineLen_total nl len h sl offS hgS
  unfold highlightArith
  simp only [hcS, hcE]
  by_cases hsame : sl = el
  · rw [if_pos hsame]
    cases hsame
    cases hgS.symm.trans hgE
    simp only [hL, csub_of_le (Nat.sub_le_sub_right hle offS)]
  · rw [if_neg hsame]
    have helt : el < nl.length := (List.getElem?_eq_some_iff.mp hgE).1
    -- the start line is before the end line: otherwise `hi < nl[el + 1] ≤ nl[sl] ≤ lo`
    have hlt : sl < el := by
      refine Nat.lt_of_le_of_ne (Nat.le_of_not_lt fun hc => ?_) hsame
      obtain ⟨e, he⟩ : ∃ e, nl[el + 1]? = some e :=
        ⟨_, List.getElem?_eq_getElem (Nat.lt_of_le_of_lt hc (List.getElem?_eq_some_iff.mp hgS).1)⟩
      have h4 := sorted_get_le nl h.sorted (el + 1) sl _ _ hc he hgS
      exact Nat.lt_irrefl hi (Nat.lt_of_lt_of_le (hnE _ he) (Nat.le_trans h4 (Nat.le_trans hoS hle)))
    -- so the start line is not the last one, and the start column fits into it
    obtain ⟨e, he⟩ : ∃ e, nl[sl + 1]? = some e :=
      ⟨_, List.getElem?_eq_getElem (Nat.lt_of_le_of_lt hlt helt)⟩
    have hsc : lo - offS ≤ L :=
      hLe _ he ▸ Nat.sub_le_sub_right (Nat.le_sub_one_of_lt (hnS _ he)) offS
    have hn : el + 1 - sl = (el - sl) + 1 := Nat.succ_sub (Nat.le_of_lt hlt)
    obtain ⟨ls, hls⟩ := lineLens_total nl len h (el - sl) (sl + 1) (by
      rw [Nat.add_right_comm, Nat.add_sub_cancel' (Nat.le_of_lt hlt)]
      exact helt)
    simp only [hn, lineLens, hL, hls, maxOf, csub_of_le (Nat.le_trans hsc (le_foldl_max ls L)),
      List.length_cons, csub_succ_one]

/-- the statement for the table `FileText::new` builds -/
theorem highlight_arith_safe (bs : List UInt8) (lo hi : Nat) (hle : lo ≤ hi) :
    highlightArith (newlines bs) bs.length lo hi = some () :=
  highlightArith_wf _ _ (newlines_wf bs) lo hi hle

/-- `line_col` alone, for every position -/
theorem line_col_spec (bs : List UInt8) (pos : Nat) :
    ∃ l off, lineCol (newlines bs) pos = some (l, pos - off) ∧ (newlines bs)[l]? = some off ∧ off ≤ pos ∧
      (∀ e, (newlines bs)[l + 1]? = some e → pos < e) :=
  lineCol_spec _ _ (newlines_wf bs) pos

/-- with a reversed span the subtraction `end_col - start_col` does underflow -/
example : highlightArith (newlines [97, 98, 99]) 3 2 1 = none := by decide

end LalrpopModel.FileText
