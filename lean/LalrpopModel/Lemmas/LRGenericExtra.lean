import LalrpopModel.Lemmas.LRGenericIO
/-!
C04/C05 bookkeeping for arbitrary tables: shape of `expected` lists, where `ExtraToken` can come from.
-/
namespace LalrpopModel.LR.Generic
open LalrpopModel.LR
variable {T : Tables} {af : Nat} {failAt : Option Nat} {startLoc : Int}

theorem expectedLoop_succ_ok {st : List Nat} {k i : Nat} {ex : List Term}
    (h : expectedLoop T af st (k + 1) i = .ok ex) :
    ∃ b rest, accepts T af st (some i) = .ok b ∧ expectedLoop T af st k (i + 1) = .ok rest ∧
      ex = if b then i :: rest else rest := by
  simp only [expectedLoop] at h
  cases hacc : accepts T af st (some i) with
  | error e => rw [hacc] at h; cases h
  | ok b =>
    rw [hacc] at h
    simp only at h
    cases hrest : expectedLoop T af st k (i + 1) with
    | error e => rw [hrest] at h; cases h
    | ok rest => rw [hrest] at h; exact ⟨b, rest, rfl, rfl, (Except.ok.inj h).symm⟩

/-- a terminal is listed iff `__accepts` says yes for it (and it is one of `__TERMINAL`) -/
theorem expectedLoop_mem {st : List Nat} {k i : Nat} {ex : List Term}
    (h : expectedLoop T af st k i = .ok ex) (x : Nat) :
    x ∈ ex ↔ (i ≤ x ∧ x < i + k ∧ accepts T af st (some x) = .ok true) := by
  induction k generalizing i ex with
  | zero =>
    cases h
    exact ⟨nofun, fun ⟨h1, h2, _⟩ => absurd h1 (Nat.not_le_of_lt h2)⟩
  | succ k ih =>
    obtain ⟨b, rest, hacc, hrest, rfl⟩ := expectedLoop_succ_ok h
    have hmem : x ∈ (if b then i :: rest else rest) ↔ (x = i ∧ b = true) ∨ x ∈ rest := by
      cases b <;> simp
    rw [hmem, ih hrest]
    constructor
    · rintro (⟨rfl, rfl⟩ | ⟨h1, h2, h3⟩)
      · exact ⟨Nat.le_refl _, by omega, hacc⟩
      · exact ⟨by omega, by omega, h3⟩
    · rintro ⟨h1, h2, h3⟩
      by_cases hx : x = i
      · subst hx
        exact .inl ⟨rfl, Except.ok.inj (hacc.symm.trans h3)⟩
      · exact .inr ⟨by omega, by omega, h3⟩

theorem expectedLoop_sorted {st : List Nat} {k i : Nat} {ex : List Term}
    (h : expectedLoop T af st k i = .ok ex) : ex.Pairwise (fun (a b : Nat) => a < b) := by
  induction k generalizing i ex with
  | zero => cases h; exact .nil
  | succ k ih =>
    obtain ⟨b, rest, -, hrest, rfl⟩ := expectedLoop_succ_ok h
    cases b with
    | false => exact ih hrest
    | true => exact List.pairwise_cons.mpr ⟨fun x hx => ((expectedLoop_mem hrest x).mp hx).1, ih hrest⟩

theorem mkErr_not_extra (c : Cfg) (la' : Option (Tok × Term)) (ex : List Term) (la : Tok) :
    mkErr c la' ex ≠ .extraToken la := by
  rcases la' with _ | ⟨t, i⟩ <;> exact nofun

/-- a step into `.done (.err (.extraToken la))` is a start-production reduce in `.act la idx` -/
theorem Step.extra_cases {input : List Item} {c c' : Cfg} {ph : Phase} {la : Tok}
    (hio : IOInv T startLoc input c ph)
    (hs : Step T af failAt startLoc c ph c' (.done (.err (.extraToken la)))) (hnd : phDone ph = false) :
    ∃ idx top rest a p, ph = .act la idx ∧ c.states = top :: rest ∧ T.actionAt top idx = some a ∧
      asShift a = none ∧ asReduce a = some p ∧ T.isStart[p]? = some true ∧
      c'.pulled = c.pulled ∧ c'.input = c.input := by
  cases hs.done_cases hnd with
  | panic tag hr => cases hr
  | next hn hph => cases hn
  | red p ls r0 hctx hr heq =>
    cases ph with
    | act la' idx =>
      cases hr with
      | accept n hn hlen hnf hst k hk =>
        cases heq
        obtain ⟨-, top, rest, a, h1, h2, h3, h4⟩ := hctx
        exact ⟨idx, top, rest, a, p, rfl, h1, h2, h3, h4, hst, rfl, rfl⟩
      | _ => cases heq
    | _ => rcases hr.fin_outcome with ⟨_, rfl⟩ | ⟨_, rfl⟩ | ⟨_, rfl⟩ <;> cases heq
  | noRec la' fe ex hctx hex hrec hc hr =>
    exact (mkErr_not_extra _ _ _ _ (Outcome.err.inj hr).symm).elim
  | giveUp e d sl fe hph hc hr =>
    subst hph
    cases hr
    exact (hio.perr _ rfl).2.elim

end LalrpopModel.LR.Generic
