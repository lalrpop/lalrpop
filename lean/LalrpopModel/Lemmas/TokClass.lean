import LalrpopModel.Lemmas.TokBasic
/-! The character classes of `next_unshifted` (dispatch characters, identifier starts, white space)
    are disjoint, and the equations of `next_unshifted` on each. -/
namespace LalrpopModel.Tok

/-- the characters `next_unshifted` dispatches on before it looks at character classes -/
def specialChars : List Char :=
  ['&', '!', ':', ',', '.', '=', '#', '>', '{', '[', '(', '<', '@', '+', '?', '}', ']', ')', ';', '*', '~', '`',
   '\'', '"', '/', '-']

theorem special_not_idStart : ∀ s ∈ specialChars, isIdStart s = false := by decide +kernel
theorem special_not_idContinue : ∀ s ∈ specialChars, isIdContinue s = false := by decide +kernel
theorem special_ascii : ∀ s ∈ specialChars, 33 ≤ s.toNat ∧ s.toNat ≤ 126 := by decide +kernel

theorem idStart_not_special (c : Char) (h : isIdStart c = true) : c ∉ specialChars := by
  intro hm
  have := special_not_idStart c hm
  simp [h] at this


/-- every point of the increasing list `q` lies outside every range of `t`: one walk over `t`, the
    points below the current range being dropped as it goes -/
def sepPts : List (Nat × Nat) → List Nat → Bool
  | [], _ => true
  | (lo, hi) :: t, q =>
    match q.dropWhile (Nat.blt · lo) with
    | [] => true
    | n :: q' => Nat.blt hi n && sepPts t (n :: q')

theorem sepPts_sound : ∀ (t : List (Nat × Nat)) (q : List Nat), q.Pairwise (· ≤ ·) → sepPts t q = true →
    ∀ n ∈ q, inRanges t n = false := by
  intro t
  induction t with
  | nil => intros; rfl
  | cons r t ih =>
    obtain ⟨lo, hi⟩ := r
    intro q hq hs n hn
    simp only [inRanges]
    by_cases hlo : n < lo
    · simp [hlo]
    · -- `n` is not below `lo`, so it survives the `dropWhile`, and the first survivor is above `hi`
      have hmem : n ∈ q.dropWhile (Nat.blt · lo) := by
        rw [← List.takeWhile_append_dropWhile (p := (Nat.blt · lo)) (l := q)] at hn
        rcases List.mem_append.1 hn with h | h
        · have : Nat.blt n lo = true := List.all_eq_true.1 List.all_takeWhile n h
          exact absurd (Nat.blt_eq.mp this) hlo
        · exact h
      have hd : (q.dropWhile (Nat.blt · lo)).Pairwise (· ≤ ·) := hq.sublist (List.dropWhile_sublist _)
      simp only [sepPts] at hs
      split at hs
      · rename_i heq
        rw [heq] at hmem
        cases hmem
      · rename_i m q' heq
        rw [heq] at hmem hd
        simp only [Bool.and_eq_true, Nat.blt_eq] at hs
        have hmn : m ≤ n := by
          rcases List.mem_cons.1 hmem with rfl | h
          · exact Nat.le_refl _
          · exact List.rel_of_pairwise_cons hd h
        have hhi : ¬ n ≤ hi := by omega
        simp only [hlo, hhi, if_false]
        exact ih _ hd hs.2 n hmem

theorem wsCodes_increasing : wsCodes.Pairwise (· ≤ ·) := by decide +kernel

theorem wsCodes_not_ascii : ∀ n ∈ wsCodes, n ≤ 32 ∨ 133 ≤ n := by decide +kernel

theorem ws_not_xidStart : ∀ n ∈ wsCodes, inRanges xidStartTable n = false :=
  sepPts_sound _ _ wsCodes_increasing (by decide +kernel)

theorem ws_not_xidContinue : ∀ n ∈ wsCodes, inRanges xidContinueTable n = false :=
  sepPts_sound _ _ wsCodes_increasing (by decide +kernel)

theorem ws_facts (c : Char) (h : isWhitespace c = true) :
    isIdStart c = false ∧ isIdContinue c = false ∧ c ∉ specialChars := by
  have hn : c.toNat ∈ wsCodes := by simpa [isWhitespace] using h
  have hu : c ≠ '_' := by
    rintro rfl
    exact absurd h (by decide)
  refine ⟨?_, ?_, fun hm => ?_⟩
  · simp [isIdStart, ws_not_xidStart _ hn, hu]
  · simp [isIdContinue, ws_not_xidContinue _ hn, hu]
  · have := special_ascii c hm
    have := wsCodes_not_ascii _ hn
    omega

theorem next_nonspecial (cfg : Cfg) (g p : Nat) (c : Char) (r : List Char) (hs : c ∉ specialChars) :
    nextUnshifted cfg (g + 1) ⟨p, c :: r⟩ =
      if isIdStart c then
        if c == 'r' then
          match r with
          | '#' :: _ =>
            ofRes ⟨p + c.utf8Size, r⟩ (regexLiteral (fun i s => codeTop cfg i s) p ['r'] ⟨p + c.utf8Size, r⟩)
          | '"' :: _ =>
            ofRes ⟨p + c.utf8Size, r⟩ (regexLiteral (fun i s => codeTop cfg i s) p ['r'] ⟨p + c.utf8Size, r⟩)
          | _ => ofRes ⟨p + c.utf8Size, r⟩ (identifierish (fun i s => codeTop cfg i s) p ['r'] ⟨p + c.utf8Size, r⟩)
        else ofRes ⟨p, c :: r⟩ (identifierish (fun i s => codeTop cfg i s) p [] ⟨p, c :: r⟩)
      else if isWhitespace c then nextUnshifted cfg g ⟨p + c.utf8Size, r⟩
      else (.err ⟨p, .unrecognizedToken⟩, ⟨p, c :: r⟩) := by
  -- the disequalities in the form the dispatch tests them, `(c == '&') = false` and so on
  simp only [specialChars, List.mem_cons, List.not_mem_nil, or_false, not_or, ← ne_eq, ← beq_eq_false_iff_ne] at hs
  simp only [nextUnshifted, hs, Bool.false_eq_true, ↓reduceIte]
  rfl

theorem next_ws (cfg : Cfg) (g p : Nat) (c : Char) (r : List Char) (h : isWhitespace c = true) :
    nextUnshifted cfg (g + 1) ⟨p, c :: r⟩ = nextUnshifted cfg g ⟨p + c.utf8Size, r⟩ := by
  obtain ⟨h1, _, h3⟩ := ws_facts c h
  rw [next_nonspecial cfg g p c r h3]
  simp only [h1, h, Bool.false_eq_true, ↓reduceIte]

theorem next_idStart (cfg : Cfg) (g p : Nat) (c : Char) (r : List Char) (h : isIdStart c = true) (hr : c ≠ 'r') :
    nextUnshifted cfg (g + 1) ⟨p, c :: r⟩ =
      ofRes ⟨p, c :: r⟩ (identifierish (fun i s => codeTop cfg i s) p [] ⟨p, c :: r⟩) := by
  rw [next_nonspecial cfg g p c r (idStart_not_special c h)]
  simp only [h, beq_iff_eq, hr, ↓reduceIte]

theorem next_r_raw (cfg : Cfg) (g p : Nat) (d : Char) (r : List Char) (h : d = '#' ∨ d = '"') :
    nextUnshifted cfg (g + 1) ⟨p, 'r' :: d :: r⟩ =
      ofRes ⟨p + 1, d :: r⟩ (regexLiteral (fun i s => codeTop cfg i s) p ['r'] ⟨p + 1, d :: r⟩) := by
  rw [next_nonspecial cfg g p 'r' _ (by decide)]
  rcases h with rfl | rfl <;> rfl

theorem next_r_word (cfg : Cfg) (g p : Nat) (r : List Char) (h1 : r.head? ≠ some '#') (h2 : r.head? ≠ some '"') :
    nextUnshifted cfg (g + 1) ⟨p, 'r' :: r⟩ =
      ofRes ⟨p + 1, r⟩ (identifierish (fun i s => codeTop cfg i s) p ['r'] ⟨p + 1, r⟩) := by
  rw [next_nonspecial cfg g p 'r' r (by decide), if_pos (by decide), if_pos (by decide)]
  split
  · simp at h1
  · simp at h2
  · rfl


theorem next_quote (cfg : Cfg) (g p : Nat) (r : List Char) :
    nextUnshifted cfg (g + 1) ⟨p, '"' :: r⟩ = ofRes ⟨p + 1, r⟩ (stringLiteral p ⟨p + 1, r⟩) := by
  simp only [nextUnshifted, Char.reduceBEq, Bool.false_eq_true, ↓reduceIte, utf8Size_ascii, Char.reduceVal,
    UInt32.reduceLE]

theorem next_backquote (cfg : Cfg) (g p : Nat) (r : List Char) :
    nextUnshifted cfg (g + 1) ⟨p, '`' :: r⟩ = ofRes ⟨p + 1, r⟩ (escape p ⟨p + 1, r⟩) := by
  simp only [nextUnshifted, Char.reduceBEq, Bool.false_eq_true, ↓reduceIte, utf8Size_ascii, Char.reduceVal,
    UInt32.reduceLE]

theorem next_tick (cfg : Cfg) (g p : Nat) (r : List Char) :
    nextUnshifted cfg (g + 1) ⟨p, '\'' :: r⟩ = ofRes ⟨p + 1, r⟩ (lifetimeish p ⟨p + 1, r⟩) := by
  simp only [nextUnshifted, Char.reduceBEq, Bool.false_eq_true, ↓reduceIte, utf8Size_ascii, Char.reduceVal,
    UInt32.reduceLE]

theorem next_slash_slash (cfg : Cfg) (g p : Nat) (r : List Char) :
    nextUnshifted cfg (g + 1) ⟨p, '/' :: '/' :: r⟩ =
      nextUnshifted cfg g (takeUntil (· == '\n') (p + 1) ('/' :: r)).2.2 := by
  simp only [nextUnshifted, Char.reduceBEq, Bool.false_eq_true, ↓reduceIte, utf8Size_ascii, Char.reduceVal,
    UInt32.reduceLE]

theorem next_slash_star (cfg : Cfg) (g p : Nat) (r : List Char) (st2 : St)
    (h : blockComment p ⟨p + 1 + 1, r⟩ = .ok st2) :
    nextUnshifted cfg (g + 1) ⟨p, '/' :: '*' :: r⟩ = nextUnshifted cfg g st2 := by
  simp only [nextUnshifted, h, Char.reduceBEq, Bool.false_eq_true, ↓reduceIte, utf8Size_ascii, Char.reduceVal,
    UInt32.reduceLE]

/-- `first!(self, shebang_attribute(idx0), Ok(Hash))` -/
theorem next_hash (cfg : Cfg) (g p : Nat) (r : List Char) :
    nextUnshifted cfg (g + 1) ⟨p, '#' :: r⟩ =
      match shebangAttribute cfg p ⟨p, '#' :: r⟩ ⟨p + 1, r⟩ with
      | .ok ((l, t, e), st2) => (.tok l t e, st2)
      | .error _ => (.tok p .hash (p + 1), ⟨p + 1, r⟩) := by
  simp only [nextUnshifted, Char.reduceBEq, Bool.false_eq_true, ↓reduceIte, utf8Size_ascii, Char.reduceVal,
    UInt32.reduceLE]
  rfl

theorem next_arrow (cfg : Cfg) (g p : Nat) (r : List Char) :
    nextUnshifted cfg (g + 1) ⟨p, '=' :: '>' :: r⟩ = ofRes ⟨p + 1, '>' :: r⟩ (rightArrow cfg p ⟨p + 1 + 1, r⟩) := by
  simp only [nextUnshifted, Char.reduceBEq, Bool.false_eq_true, ↓reduceIte, utf8Size_ascii, Char.reduceVal,
    UInt32.reduceLE]

end LalrpopModel.Tok
