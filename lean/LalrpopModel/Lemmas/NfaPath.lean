import LalrpopModel.Lemmas.NfaBasic
/-!
`Path N s w q`: reading `w` leads from `s` to `q`. Unlike an accepting run it can be concatenated and cut at the
last symbol, which is what the subset construction follows; `acc_iff_path` links the two.
-/
namespace LalrpopModel.Nfa

/-- `q` is reachable from `s` reading `w` (ε-moves allowed everywhere) -/
inductive Path (N : Nfa) : Nat → List Nat → Nat → Prop where
  | nil (s) : Path N s [] s
  | eps (s u w q) : u ∈ noopOf N s → Path N u w q → Path N s w q
  | chr (s u c w q) : stepChar N s c = some u → Path N u w q → Path N s (c :: w) q

theorem Path.append {N : Nfa} {s q r : Nat} {w w' : List Nat} (h1 : Path N s w q) (h2 : Path N q w' r) :
    Path N s (w ++ w') r := by
  induction h1 with
  | nil s => simpa using h2
  | eps s u w q hu _ ih => exact .eps s u _ r hu (ih h2)
  | chr s u c w q hu _ ih => exact .chr s u c _ r hu (ih h2)

theorem Path.snoc_eps {N : Nfa} {s q u : Nat} {w : List Nat} (h : Path N s w q) (hu : u ∈ noopOf N q) :
    Path N s w u := by
  have := h.append (.eps q u [] u hu (.nil u))
  simpa using this

theorem Path.snoc_chr {N : Nfa} {s q u c : Nat} {w : List Nat} (h : Path N s w q)
    (hu : stepChar N q c = some u) : Path N s (w ++ [c]) u :=
  h.append (.chr q u c [] u hu (.nil u))

theorem Path.snoc_inv {N : Nfa} {s r : Nat} {w : List Nat} {c : Nat} (h : Path N s (w ++ [c]) r) :
    ∃ q u, Path N s w q ∧ stepChar N q c = some u ∧ Path N u [] r := by
  generalize hx : w ++ [c] = x at h
  induction h generalizing w with
  | nil s => simp at hx
  | eps s u x q hu _ ih =>
    obtain ⟨q', u', h1, h2, h3⟩ := ih hx
    exact ⟨q', u', .eps s u _ _ hu h1, h2, h3⟩
  | chr s u d x q hu hp ih =>
    cases w with
    | nil =>
      simp only [List.nil_append, List.cons.injEq] at hx
      obtain ⟨rfl, rfl⟩ := hx
      exact ⟨s, u, .nil s, hu, hp⟩
    | cons a w' =>
      simp only [List.cons_append, List.cons.injEq] at hx
      obtain ⟨rfl, hx⟩ := hx
      obtain ⟨q', u', h1, h2, h3⟩ := ih hx
      exact ⟨q', u', .chr s u _ _ _ hu h1, h2, h3⟩

theorem acc_iff_path {N : Nfa} {s : Nat} {w : List Nat} :
    Acc N s w ↔ ∃ q, Path N s w q ∧ kindOf N q = .accept := by
  constructor
  · rintro ⟨k, hr⟩
    induction hr with
    | acc k s hs => exact ⟨s, .nil s, hs⟩
    | eps k s u w hu _ ih =>
      obtain ⟨q, hp, hq⟩ := ih
      exact ⟨q, .eps s u w q hu hp, hq⟩
    | chr k s u c w hu _ ih =>
      obtain ⟨q, hp, hq⟩ := ih
      exact ⟨q, .chr s u c w q hu hp, hq⟩
  · rintro ⟨q, hp, hq⟩
    induction hp with
    | nil s => exact ⟨0, .acc 0 s hq⟩
    | eps s u w q hu _ ih => exact Acc.eps hu (ih hq)
    | chr s u c w q hu _ ih => exact Acc.chr hu (ih hq)

end LalrpopModel.Nfa
