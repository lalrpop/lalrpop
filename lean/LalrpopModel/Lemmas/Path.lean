import LalrpopModel.Model.Path
/-! Helper lemmas about M-PATH. -/

namespace LalrpopModel.PathM

theorem lastDot_go_noDot (xs : Name) (i : Nat) (best : Option Nat) (h : DOT ∉ xs) :
    lastDot.go xs i best = best := by
  induction xs generalizing i best with
  | nil => rfl
  | cons x xs ih =>
    have hx : x ≠ DOT := fun e => h (e ▸ List.mem_cons_self)
    rw [lastDot.go, if_neg hx, ih _ _ (fun e => h (List.mem_cons_of_mem _ e))]

theorem lastDot_go_append (s e : Name) (i : Nat) (best : Option Nat) (h : DOT ∉ e) :
    lastDot.go (s ++ DOT :: e) i best = some (i + s.length) := by
  induction s generalizing i best with
  | nil => rw [List.nil_append, lastDot.go, if_pos rfl, lastDot_go_noDot _ _ _ h]; rfl
  | cons x s ih => rw [List.cons_append, lastDot.go, ih, List.length_cons, Nat.add_right_comm, Nat.add_assoc]

theorem lastDot_noDot (n : Name) (h : DOT ∉ n) : lastDot n = none := lastDot_go_noDot n 0 none h

theorem lastDot_append (s e : Name) (h : DOT ∉ e) : lastDot (s ++ DOT :: e) = some s.length :=
  (lastDot_go_append s e 0 none h).trans (by rw [Nat.zero_add])

theorem rsplitDot_append (s e : Name) (h : DOT ∉ e) (hs : s ≠ []) (hdd : s ++ DOT :: e ≠ [DOT, DOT]) :
    rsplitDot (s ++ DOT :: e) = (some s, some e) := by
  unfold rsplitDot
  rw [if_neg hdd, lastDot_append s e h]
  cases hl : s.length with
  | zero => exact absurd (List.length_eq_zero_iff.mp hl) hs
  | succ k =>
    simp only
    rw [← hl]
    simp

theorem rsplitDot_noDot (n : Name) (h : DOT ∉ n) : rsplitDot n = (none, some n) := by
  unfold rsplitDot
  have hdd : n ≠ [DOT, DOT] := fun e => h (e ▸ List.mem_cons_self)
  rw [if_neg hdd, lastDot_noDot n h]

theorem rsplitDot_hidden (m : Name) (h : DOT ∉ m) : rsplitDot (DOT :: m) = (some (DOT :: m), none) := by
  unfold rsplitDot
  have hdd : DOT :: m ≠ [DOT, DOT] := fun e => h ((List.cons.inj e).2 ▸ List.mem_cons_self)
  rw [if_neg hdd, show lastDot (DOT :: m) = some 0 from lastDot_append [] m h]
  rfl

theorem append_dot_ne_dotdot {s : Name} (hs : s ≠ []) (hs' : s ≠ [DOT]) (e : Name) :
    s ++ DOT :: e ≠ [DOT, DOT] := by
  intro h
  cases s with
  | nil => exact hs rfl
  | cons a s =>
    cases s with
    | nil => exact hs' ((List.cons.inj h).1 ▸ rfl)
    | cons b s =>
      exact List.append_ne_nil_of_right_ne_nil _ (List.cons_ne_nil _ _)
        (List.cons.inj (List.cons.inj h).2).2

def AllNormal (p : PathC) : Prop := ∀ c ∈ p, ∃ n, c = Comp.normal n

theorem allNormal_nil : AllNormal [] := by intro c hc; cases hc

theorem stripPrefix_append (base rel : PathC) : stripPrefix (base ++ rel) base = some rel := by
  induction base with
  | nil => cases rel <;> rfl
  | cons b base ih => rw [List.cons_append, stripPrefix, if_pos rfl, ih]

theorem stripPrefix_of_length_lt {p base : PathC} (h : p.length < base.length) :
    stripPrefix p base = none := by
  induction base generalizing p with
  | nil => exact absurd h (Nat.not_lt_zero _)
  | cons b base ih =>
    cases p with
    | nil => rfl
    | cons c p =>
      rw [stripPrefix]
      split
      · exact ih (Nat.lt_of_succ_lt_succ h)
      · rfl

theorem getLast?_snoc (d : PathC) (c : Comp) : (d ++ [c]).getLast? = some c := by simp

theorem parent_snoc_normal (d : PathC) (n : Name) : parent (d ++ [.normal n]) = some d := by
  rw [parent, List.getLast?_concat, List.dropLast_concat]

theorem fileName_snoc_normal (d : PathC) (n : Name) : fileName (d ++ [.normal n]) = some n := by
  rw [fileName, List.getLast?_concat]

theorem fileName_eq_some {p : PathC} {n : Name} (h : fileName p = some n) :
    ∃ d, p = d ++ [.normal n] := by
  unfold fileName at h
  split at h
  · rename_i m hm
    cases h
    exact List.getLast?_eq_some_iff.mp hm
  · cases h

theorem join_of_allNormal (d p : PathC) (h : AllNormal p) : join d p = d ++ p := by
  cases p with
  | nil => rfl
  | cons c p =>
    obtain ⟨n, rfl⟩ := h c List.mem_cons_self
    rfl

theorem withExtension_snoc (d : PathC) (n n' ext : Name) (h : withExtensionName n ext = some n') :
    withExtension (d ++ [.normal n]) ext = d ++ [.normal n'] := by
  simp only [withExtension, fileName_snoc_normal, h, List.dropLast_concat]

theorem withExtension_snoc_none (d : PathC) (n ext : Name) (h : withExtensionName n ext = none) :
    withExtension (d ++ [.normal n]) ext = d ++ [.parent] := by
  simp only [withExtension, fileName_snoc_normal, h, List.dropLast_concat]

def dropSrc : PathC → PathC
  | .normal n :: r => if n = SRC then r else .normal n :: r
  | p => p

theorem dropSrc_allNormal {rel : PathC} (h : AllNormal rel) : AllNormal (dropSrc rel) := by
  cases rel with
  | nil => exact h
  | cons c r =>
    obtain ⟨m, rfl⟩ := h c List.mem_cons_self
    rw [dropSrc]
    by_cases hm : m = SRC
    · rw [if_pos hm]; exact fun x hx => h x (List.mem_cons_of_mem _ hx)
    · rw [if_neg hm]; exact h

theorem stripPrefix_src {rel : PathC} (h : AllNormal rel) :
    (stripPrefix rel [.normal SRC]).getD rel = dropSrc rel := by
  cases rel with
  | nil => rfl
  | cons c r =>
    obtain ⟨m, rfl⟩ := h c List.mem_cons_self
    by_cases hm : m = SRC
    · subst hm; cases r <;> simp [stripPrefix, dropSrc]
    · simp [stripPrefix, dropSrc, hm]

variable {v : Variant}

theorem outDirFor_noOut (inDir : Option PathC) (d : PathC) (n : Name) :
    outDirFor v none inDir (d ++ [.normal n]) = .ok d := by
  rw [outDirFor, parent_snoc_normal]; rfl

/-- out dir but no in dir (`process_file`): the out dir itself -/
theorem outDirFor_noIn (o file : PathC) : outDirFor v (some o) none file = .ok o := by
  unfold outDirFor
  cases parent file <;> rfl

theorem outDirFor_under (o root rel : PathC) (n : Name) (hrel : AllNormal rel) :
    outDirFor v (some o) (some root) (root ++ rel ++ [.normal n]) = .ok (o ++ dropSrc rel) := by
  simp only [outDirFor, parent_snoc_normal, stripPrefix_append, stripPrefix_src hrel]
  by_cases h : dropSrc rel = []
  · rw [if_pos h, h, List.append_nil]
  · rw [if_neg h, join_of_allNormal _ _ (dropSrc_allNormal hrel)]

/-- the in dir is the file itself (`process_dir` on a file): its parent is not under it -/
theorem outDirFor_self (o d : PathC) (n : Name) :
    outDirFor v (some o) (some (d ++ [.normal n])) (d ++ [.normal n]) =
      if v.stripFallback then .ok o else .error .panicNotUnderInDir := by
  have hs : stripPrefix d (d ++ [.normal n]) = none :=
    stripPrefix_of_length_lt (List.length_append ▸ Nat.lt_succ_self _)
  simp only [outDirFor, parent_snoc_normal, hs]
  cases v.stripFallback <;> rfl

def Item.path : Item → PathC
  | .file p => p
  | .fatal p => p

/-- every item of a walk lies under the walked path, through normal components only -/
theorem walk_walkEntries_under :
    (∀ p t, ∀ it ∈ walk p t,
      ∃ rel, it.path = p ++ rel ∧ AllNormal rel ∧ (∀ es, t = .dir es → rel ≠ [])) ∧
    (∀ p es, ∀ it ∈ walkEntries p es, ∃ rel, it.path = p ++ rel ∧ AllNormal rel ∧ rel ≠ []) := by
  apply walk.mutual_induct
  case case1 | case4 =>
    -- a file, a fatal entry: the one item is the walked path itself
    intro p it h
    cases List.mem_singleton.mp h
    exact ⟨[], (List.append_nil _).symm, allNormal_nil, nofun⟩
  case case2 | case3 | case6 =>
    intro p it h
    cases h
  case case5 =>
    intro p es ih it h
    obtain ⟨rel, h1, h2, h3⟩ := ih it h
    exact ⟨rel, h1, h2, fun _ _ => h3⟩
  case case7 =>
    intro p n c es ih1 ih2 it h
    rcases List.mem_append.mp h with h | h
    · obtain ⟨rel, h1, h2, _⟩ := ih1 it h
      refine ⟨.normal n :: rel, by rw [h1, List.append_assoc]; rfl, ?_, List.cons_ne_nil _ _⟩
      intro x hx
      rcases List.mem_cons.mp hx with rfl | hx
      · exact ⟨n, rfl⟩
      · exact h2 x hx
    · exact ih2 it h

theorem walk_under (p : PathC) (t : Node) :
    ∀ it ∈ walk p t, ∃ rel, it.path = p ++ rel ∧ AllNormal rel ∧ (∀ es, t = .dir es → rel ≠ []) :=
  walk_walkEntries_under.1 p t

theorem mem_insertEntry (e x : Name × Node) (es : List (Name × Node)) :
    x ∈ insertEntry e es ↔ x = e ∨ x ∈ es := by
  induction es with
  | nil => rw [insertEntry, List.mem_singleton]; simp
  | cons y ys ih =>
    rw [insertEntry]
    by_cases h : nameLt y.1 e.1 = true
    · rw [if_pos h, List.mem_cons, ih, List.mem_cons, or_left_comm]
    · rw [if_neg h, List.mem_cons]

theorem mem_walkEntries (p : PathC) (es : List (Name × Node)) (it : Item) :
    it ∈ walkEntries p es ↔ ∃ e ∈ es, it ∈ walk (p ++ [.normal e.1]) e.2 := by
  induction es with
  | nil => simp [walkEntries]
  | cons e es ih => simp only [walkEntries, List.mem_append, ih, List.mem_cons, exists_eq_or_imp]

/-- sorting the entries of every directory does not change which items the walk yields -/
theorem mem_walk_sort (it : Item) :
    (∀ t p, it ∈ walk p (sortTree t) ↔ it ∈ walk p t) ∧
    (∀ es p, it ∈ walkEntries p (sortEntries es) ↔ it ∈ walkEntries p es) := by
  apply sortTree.mutual_induct
  · intro es ih p
    rw [sortTree, walk, walk]
    exact ih p
  · intro t ht p
    rw [sortTree]
    exact ht
  · intro p
    rw [sortEntries]
  · intro n c es ih1 ih2 p
    rw [sortEntries, walkEntries, List.mem_append, ← ih1, ← ih2, mem_walkEntries, mem_walkEntries]
    simp only [mem_insertEntry, exists_eq_or_imp]

theorem mem_walk_sortTree (p : PathC) (t : Node) (it : Item) :
    it ∈ walk p (sortTree t) ↔ it ∈ walk p t :=
  (mem_walk_sort it).1 t p

theorem mem_walkEntries_sort (p : PathC) (es : List (Name × Node)) (it : Item) :
    it ∈ walkEntries p (sortEntries es) ↔ it ∈ walkEntries p es :=
  (mem_walk_sort it).2 es p

end LalrpopModel.PathM
