import LalrpopModel.Lemmas.Build
/-!
The invariant behind C21/C22 and the case analysis of one `process_file_into` run, for every
`Variant` of the code.

`Honest Good v p d`: whatever grammar `g` the header of the file `d` is accepted for by
`needs_rebuild`, the file is `Good` for `g`.  `Good` stays a parameter of the invariant lemmas
(`GoodSpec` is what they need of it); the properties take `Exact` (byte-identical to the output of
a forced build).  `ModHeaderWs` (the part after the two header lines is the generated body) is the
weaker reading that a header compared after `trim` can support; it is shown to be a `GoodSpec`
and not taken further.
-/

namespace LalrpopModel.Build

/-- Hypotheses on the parameters: the two header lines contain no newline and survive
    `read_line` + `trim` unchanged (true of `// auto-generated: "lalrpop x.y.z"` and of
    `// sha3: <hex>`; the driver re-checks them on the real strings on every run). -/
structure HeaderOk (p : Params) : Prop where
  v_nl : NL ∉ p.version
  h_nl : ∀ g, NL ∉ p.hash g
  v_utf8 : validUtf8 (p.version ++ [NL]) = true
  h_utf8 : ∀ g, validUtf8 (p.hash g ++ [NL]) = true
  v_trim : trim (p.version ++ [NL]) = p.version
  h_trim : ∀ g, trim (p.hash g ++ [NL]) = p.hash g

/-- the temporary file, if one is used, is opened with truncation (true of `fs::File::create`);
    without it the theorems about complete builds are false, see `stale_tmp_tail_kept` -/
def Variant.Sound (v : Variant) : Prop := v.tmpRename = true → v.truncTmp = true

theorem Variant.sound_of_not_tmp {v : Variant} (h : v.tmpRename = false) : v.Sound := by
  intro h'; rw [h] at h'; cases h'

/-- hash injectivity (explicit assumption: SHA3-256 collisions are not modelled) -/
def HashInj (p : Params) : Prop := ∀ g g', p.hash g = p.hash g' → g = g'

/-- the generator only succeeds on text that `FileText::from_path` could load -/
def GenUtf8 (p : Params) : Prop := ∀ g body, (p.gen g).result = .ok body → validUtf8 g = true

/-- `needs_rebuild` says "no": the header lines of `d` match the version and the hash of `g` -/
def Accepts (v : Variant) (p : Params) (g d : Bytes) : Prop := needsRebuild v p g (some d) = .ok false

def Honest (Good : Bytes → Bytes → Prop) (v : Variant) (p : Params) (d : Bytes) : Prop :=
  ∀ g, Accepts v p g d → Good g d

/-- every existing output is honest -/
def Inv (Good : Bytes → Bytes → Prop) (v : Variant) (p : Params) (st : St) : Prop :=
  ∀ i f, st.fs (.rs i) = some f → Honest Good v p f.data

/-- byte-identical to what a forced build of `g` writes -/
def Exact (p : Params) (g d : Bytes) : Prop :=
  ∃ body, (p.gen g).result = .ok body ∧ d = canon p g body

/-- after the two header lines comes exactly the body generated from `g` -/
def ModHeaderWs (p : Params) (g d : Bytes) : Prop :=
  ∃ body, (p.gen g).result = .ok body ∧ rest2 d = body

structure GoodSpec (p : Params) (Good : Bytes → Bytes → Prop) : Prop where
  canon_good : ∀ g body, (p.gen g).result = .ok body → Good g (canon p g body)
  good_gen : ∀ g d, Good g d → ∃ body, (p.gen g).result = .ok body

variable {p : Params} {v : Variant}

theorem needsRebuild_unreadable {g d : Bytes} (h : headerUtf8 d = false) :
    needsRebuild v p g (some d) = unreadable v := by
  cases h1 : validUtf8 (splitLine d).1 with
  | false => simp only [needsRebuild, h1, Bool.not_false, ↓reduceIte]
  | true =>
    rw [headerUtf8, h1, Bool.true_and] at h
    simp only [needsRebuild, h1, h, Bool.not_true, Bool.not_false, Bool.false_eq_true, ↓reduceIte]

theorem needsRebuild_readable {g d : Bytes} (h : headerUtf8 d = true) :
    needsRebuild v p g (some d) =
      if v.exactHeader then
        .ok ((splitLine (splitLine d).2).1 != p.hash g ++ [NL] || (splitLine d).1 != p.version ++ [NL])
      else .ok (trim (splitLine (splitLine d).2).1 != p.hash g || trim (splitLine d).1 != p.version) := by
  simp only [headerUtf8, Bool.and_eq_true] at h
  simp only [needsRebuild, h.1, h.2, Bool.not_true, Bool.false_eq_true, ↓reduceIte]

theorem needsRebuild_some_cases (v : Variant) (p : Params) (g d : Bytes) :
    needsRebuild v p g (some d) = .ok true ∨ Accepts v p g d ∨
    (headerUtf8 d = false ∧ v.utf8Tolerant = false) := by
  cases hu : headerUtf8 d with
  | false =>
    rw [needsRebuild_unreadable hu, unreadable]
    cases v.utf8Tolerant
    · exact Or.inr (Or.inr ⟨rfl, rfl⟩)
    · exact Or.inl rfl
  | true =>
    cases h : needsRebuild v p g (some d) with
    | error e => rw [needsRebuild_readable hu] at h; split at h <;> cases h
    | ok b =>
      cases b
      · exact Or.inr (Or.inl h)
      · exact Or.inl rfl

theorem not_accepts_unreadable {g d : Bytes} (h : headerUtf8 d = false) : ¬ Accepts v p g d := by
  intro hacc
  rw [Accepts, needsRebuild_unreadable h, unreadable] at hacc
  split at hacc <;> cases hacc

theorem accepts_exact {g d : Bytes} (he : v.exactHeader = true) (h : Accepts v p g d) :
    d = p.version ++ [NL] ++ (p.hash g ++ [NL]) ++ rest2 d := by
  have hu := Bool.of_not_eq_false fun hu => not_accepts_unreadable hu h
  rw [Accepts, needsRebuild_readable hu, if_pos he] at h
  simp only [Except.ok.injEq, Bool.or_eq_false_iff, bne_eq_false_iff_eq] at h
  rw [List.append_assoc, ← h.1, ← h.2, rest2, splitLine_fst_append_snd, splitLine_fst_append_snd]

theorem rest2_lines {x y : Bytes} (hx : NL ∉ x) (hy : NL ∉ y) (body : Bytes) :
    rest2 (x ++ NL :: (y ++ NL :: body)) = body := by
  simp only [rest2, splitLine_line _ _ hx, splitLine_line _ _ hy]

theorem headerUtf8_lines {x y : Bytes} (hx : NL ∉ x) (hy : NL ∉ y) (body : Bytes) :
    headerUtf8 (x ++ NL :: (y ++ NL :: body)) = (validUtf8 (x ++ [NL]) && validUtf8 (y ++ [NL])) := by
  simp only [headerUtf8, splitLine_line _ _ hx, splitLine_line _ _ hy]

theorem needsRebuild_lines {x y : Bytes} (hx : NL ∉ x) (hy : NL ∉ y) (body : Bytes)
    (hxu : validUtf8 (x ++ [NL]) = true) (hyu : validUtf8 (y ++ [NL]) = true) (g : Bytes) :
    needsRebuild v p g (some (x ++ NL :: (y ++ NL :: body))) =
      if v.exactHeader then .ok (y ++ [NL] != p.hash g ++ [NL] || x ++ [NL] != p.version ++ [NL])
      else .ok (trim (y ++ [NL]) != p.hash g || trim (x ++ [NL]) != p.version) := by
  have hu : headerUtf8 (x ++ NL :: (y ++ NL :: body)) = true := by
    rw [headerUtf8_lines hx hy, hxu, hyu]; rfl
  simp only [needsRebuild_readable hu, splitLine_line _ _ hx, splitLine_line _ _ hy]

theorem canon_eq (p : Params) (g body : Bytes) :
    canon p g body = p.version ++ NL :: (p.hash g ++ NL :: body) := by
  simp [canon, List.append_assoc]

theorem rest2_canon (hp : HeaderOk p) (g body : Bytes) : rest2 (canon p g body) = body := by
  rw [canon_eq]; exact rest2_lines hp.v_nl (hp.h_nl g) body

theorem headerUtf8_canon (hp : HeaderOk p) (g body : Bytes) : headerUtf8 (canon p g body) = true := by
  rw [canon_eq, headerUtf8_lines hp.v_nl (hp.h_nl g), hp.v_utf8, hp.h_utf8]; rfl

private theorem bne_append_right (a b c : Bytes) : (a ++ c != b ++ c) = (a != b) := by
  rw [Bool.eq_iff_iff]; simp [bne_iff_ne]

theorem needsRebuild_canon (hp : HeaderOk p) (v : Variant) (g g0 body : Bytes) :
    needsRebuild v p g (some (canon p g0 body)) = .ok (p.hash g0 != p.hash g) := by
  rw [canon_eq, needsRebuild_lines hp.v_nl (hp.h_nl g0) body hp.v_utf8 (hp.h_utf8 g0), hp.v_trim,
    hp.h_trim, bne_append_right, bne_self_eq_false, bne_self_eq_false, Bool.or_false, ite_self]

theorem accepts_canon_iff (hp : HeaderOk p) (v : Variant) (g g0 body : Bytes) :
    Accepts v p g (canon p g0 body) ↔ p.hash g0 = p.hash g := by
  rw [Accepts, needsRebuild_canon hp, Except.ok.injEq, bne_eq_false_iff_eq]

theorem exact_spec (p : Params) : GoodSpec p (Exact p) where
  canon_good := fun _ body h => ⟨body, h, rfl⟩
  good_gen := fun _ _ ⟨body, h, _⟩ => ⟨body, h⟩

theorem modHeaderWs_spec (hp : HeaderOk p) : GoodSpec p (ModHeaderWs p) where
  canon_good := fun g body h => ⟨body, h, rest2_canon hp g body⟩
  good_gen := fun _ _ ⟨body, h, _⟩ => ⟨body, h⟩

theorem honest_canon {Good : Bytes → Bytes → Prop} (hp : HeaderOk p) (hinj : HashInj p)
    (hg : GoodSpec p Good) {g body : Bytes} (hgen : (p.gen g).result = .ok body) :
    Honest Good v p (canon p g body) := by
  intro g' hacc
  cases hinj _ _ ((accepts_canon_iff hp v g' g body).mp hacc)
  exact hg.canon_good _ _ hgen

/-- "the rebuild branch is taken" -/
def Need (v : Variant) (p : Params) (cfg : Cfg) (st : St) (i : Nat) (g : Bytes) : Prop :=
  cfg.force = true ∨ needsRebuild v p g ((st.fs (.rs i)).map (·.data)) = .ok true

theorem need_cases (v : Variant) (p : Params) (cfg : Cfg) (st : St) (i : Nat) (g : Bytes) :
    Need v p cfg st i g ∨ (cfg.force = false ∧ ∃ f, st.fs (.rs i) = some f ∧
      (Accepts v p g f.data ∨ (headerUtf8 f.data = false ∧ v.utf8Tolerant = false))) := by
  cases hf : cfg.force with
  | true => exact Or.inl (Or.inl hf)
  | false =>
    cases hfi : st.fs (.rs i) with
    | none => exact Or.inl (Or.inr (by rw [hfi]; rfl))
    | some f =>
      rcases needsRebuild_some_cases v p g f.data with h | h
      · exact Or.inl (Or.inr (by rw [hfi]; exact h))
      · exact Or.inr ⟨rfl, f, rfl, h⟩

variable {cfg : Cfg} {st : St} {i : Nat} {g : Bytes}

theorem decision_of_need (h : Need v p cfg st i g) :
    (if cfg.force = true then (Except.ok true : Except IoErr Bool)
      else needsRebuild v p g ((st.fs (.rs i)).map (·.data))) = .ok true := by
  rcases h with h | h
  · rw [if_pos h]
  · rw [h, ite_self]

theorem needsRebuildMissing_ne_false (v : Variant) (out : Option Bytes) :
    needsRebuildMissing v out ≠ .ok false := by
  cases out with
  | none => nofun
  | some d =>
    simp only [needsRebuildMissing, unreadable]
    split
    · nofun
    · split <;> nofun

theorem build_eq (v : Variant) (p : Params) (cfg : Cfg) (st : St) (i : Nat) :
    build v p cfg st i = ((plan v p cfg st i).1, applyActs st (plan v p cfg st i).2) := rfl

theorem buildDir_cons (v : Variant) (p : Params) (cfg : Cfg) (st : St) (i : Nat) (ids : List Nat) :
    buildDir v p cfg st (i :: ids) =
      if (build v p cfg st i).1.isOk then
        ((build v p cfg st i).1 :: (buildDir v p cfg (build v p cfg st i).2 ids).1,
          (buildDir v p cfg (build v p cfg st i).2 ids).2)
      else ([(build v p cfg st i).1], (build v p cfg st i).2) := rfl

theorem plan_missing (v : Variant) (p : Params) (cfg : Cfg) (hg : st.gr i = none) :
    (∃ e, plan v p cfg st i = (.ioErr e, [])) ∨
      plan v p cfg st i = (.ioErr .notFound, loadFailActs v i) := by
  simp only [plan, hg]
  generalize hneed : (if cfg.force = true then (Except.ok true : Except IoErr Bool)
      else needsRebuildMissing v ((st.fs (.rs i)).map (·.data))) = need
  match need, hneed with
  | .error e, _ => exact Or.inl ⟨e, rfl⟩
  | .ok true, _ => exact Or.inr rfl
  | .ok false, hneed =>
    split at hneed
    · cases hneed
    · exact absurd hneed (needsRebuildMissing_ne_false _ _)

theorem plan_headerErr (hg : st.gr i = some g) (hf : cfg.force = false) {f : File}
    (hfi : st.fs (.rs i) = some f) (hu : headerUtf8 f.data = false) (ht : v.utf8Tolerant = false) :
    plan v p cfg st i = (.ioErr .headerNotUtf8, []) := by
  simp only [plan, hg, hf, hfi, Option.map_some, needsRebuild_unreadable hu, unreadable, ht,
    Bool.false_eq_true, ↓reduceIte]

theorem plan_upToDate (hg : st.gr i = some g) (hf : cfg.force = false) {f : File}
    (hfi : st.fs (.rs i) = some f) (h : Accepts v p g f.data) :
    plan v p cfg st i = (.upToDate, []) := by
  rw [Accepts] at h
  simp only [plan, hg, hf, hfi, Option.map_some, h, Bool.false_eq_true, ↓reduceIte]

theorem plan_notUtf8 (hg : st.gr i = some g) (hn : Need v p cfg st i g)
    (hu : validUtf8 g = false) :
    plan v p cfg st i = (.ioErr .grammarNotUtf8, loadFailActs v i) := by
  simp only [plan, hg, decision_of_need hn, hu, Bool.not_false, ↓reduceIte]

theorem plan_genErr (hg : st.gr i = some g) (hn : Need v p cfg st i g) (hu : validUtf8 g = true)
    {e : Nat} (hr : (p.gen g).result = .error e) :
    plan v p cfg st i = (.genErr e, .remove (.rs i) :: reportActs cfg i (p.gen g).reports) := by
  simp only [plan, hg, decision_of_need hn, hu, hr, Bool.not_true, Bool.false_eq_true, ↓reduceIte]

theorem plan_built (hg : st.gr i = some g) (hn : Need v p cfg st i g) (hu : validUtf8 g = true)
    {body : Bytes} (hr : (p.gen g).result = .ok body) :
    plan v p cfg st i = (.built, (.remove (.rs i) :: reportActs cfg i (p.gen g).reports) ++
      if v.tmpRename then
        (if v.truncTmp then writeOut (.tmp i) p g body else writeOutKeep (.tmp i) p g body) ++
          [.rename (.tmp i) (.rs i)]
      else writeOut (.rs i) p g body) := by
  simp only [plan, hg, decision_of_need hn, hu, hr, Bool.not_true, Bool.false_eq_true, ↓reduceIte]
  cases v.tmpRename <;> rfl

theorem plan_force (hg : st.gr i = some g) (hn : Need v p cfg st i g) :
    plan v p cfg st i = plan v p { cfg with force := true } st i := by
  simp only [plan, hg, decision_of_need hn, ↓reduceIte]
  rfl

/-- What a run of `process_file_into` for grammar `i`, complete or interrupted, does to the
    grammars and the outputs: the grammars and the outputs of the other grammars stay; the output
    of `i` stays, goes, or is the complete output for the text of `i`. -/
structure RunEffect (p : Params) (i : Nat) (st st' : St) : Prop where
  gr : st'.gr = st.gr
  frame : ∀ j, j ≠ i → st'.fs (.rs j) = st.fs (.rs j)
  own : st'.fs (.rs i) = st.fs (.rs i) ∨ st'.fs (.rs i) = none ∨
    ∃ g body c, st.gr i = some g ∧ (p.gen g).result = .ok body ∧
      st'.fs (.rs i) = some ⟨canon p g body, c⟩

theorem RunEffect.refl (p : Params) (i : Nat) (st : St) : RunEffect p i st st :=
  ⟨rfl, fun _ _ => rfl, Or.inl rfl⟩

def NoRs (acts : List FsAct) : Prop := ∀ j, ∀ a ∈ acts, ¬ touches a (.rs j)

theorem NoRs.append {xs ys : List FsAct} (hx : NoRs xs) (hy : NoRs ys) : NoRs (xs ++ ys) :=
  fun j a ha => (List.mem_append.mp ha).elim (hx j a) (hy j a)

theorem reportActs_noRs (cfg : Cfg) (i : Nat) (reps : List Bytes) : NoRs (reportActs cfg i reps) :=
  fun _ => reportActs_touches cfg i reps _ Path.noConfusion

theorem tmpWrites_noRs (v : Variant) (p : Params) (i : Nat) (g body : Bytes) :
    NoRs (if v.truncTmp then writeOut (.tmp i) p g body else writeOutKeep (.tmp i) p g body) := by
  intro j
  split
  · exact writeOut_touches _ p g body _ Path.noConfusion
  · exact writeOutKeep_touches _ p g body _ Path.noConfusion

theorem applyActs_remove_noRs {mid : List FsAct} (h : NoRs mid) (st : St) (i : Nat) :
    (applyActs st (.remove (.rs i) :: mid)).fs (.rs i) = none ∧
    ∀ j, j ≠ i → (applyActs st (.remove (.rs i) :: mid)).fs (.rs j) = st.fs (.rs j) := by
  refine ⟨?_, fun j hj => ?_⟩
  · rw [applyActs_cons, applyActs_frame _ _ _ (h i)]
    exact setFs_same _ _ _
  · rw [applyActs_cons, applyActs_frame _ _ _ (h j)]
    exact setFs_other _ _ (mt Path.rs.inj hj)

theorem RunEffect.remove {mid : List FsAct} (h : NoRs mid) (p : Params) (st : St) (i : Nat) :
    RunEffect p i st (applyActs st (.remove (.rs i) :: mid)) :=
  ⟨applyActs_gr _ _, (applyActs_remove_noRs h st i).2, Or.inr (Or.inl (applyActs_remove_noRs h st i).1)⟩

theorem loadFail_rs (v : Variant) (st : St) (i : Nat) :
    (applyActs st (loadFailActs v i)).fs (.rs i) = if v.removeFirst then none else st.fs (.rs i) := by
  unfold loadFailActs
  cases v.removeFirst
  · rfl
  · exact setFs_same _ _ _

theorem loadFail_effect (v : Variant) (st : St) (i : Nat) :
    RunEffect p i st (applyActs st (loadFailActs v i)) := by
  unfold loadFailActs
  cases v.removeFirst
  · exact .refl p i st
  · exact .remove (mid := []) (fun _ _ ha => nomatch ha) p st i

/-- the output phase of a successful run, in place or through the temporary file -/
theorem applyActs_output (hs : v.Sound) (st : St) (i : Nat) (g body : Bytes) :
    let st' := applyActs st (if v.tmpRename then
      (if v.truncTmp then writeOut (.tmp i) p g body else writeOutKeep (.tmp i) p g body) ++
        [.rename (.tmp i) (.rs i)]
      else writeOut (.rs i) p g body)
    st'.fs (.rs i) = some ⟨canon p g body, st.clock⟩ ∧
      ∀ j, j ≠ i → st'.fs (.rs j) = st.fs (.rs j) := by
  cases ht : v.tmpRename with
  | false =>
    simp only [Bool.false_eq_true, ↓reduceIte]
    exact ⟨applyActs_writeOut _ _ _ _ _, fun j hj =>
      applyActs_frame _ _ _ (writeOut_touches _ p g body _ (mt Path.rs.inj hj))⟩
  | true =>
    simp only [↓reduceIte, hs ht]
    refine ⟨?_, fun j hj => ?_⟩
    · rw [applyActs_snoc_rename _ _ _ _ Path.noConfusion]
      exact applyActs_writeOut _ _ _ _ _
    · rw [applyActs_append]
      exact (applyAct_frame _ (.rename (.tmp i) (.rs i)) _
        fun e => e.elim Path.noConfusion fun e => hj (Path.rs.inj e)).trans
        (applyActs_frame _ _ _ (writeOut_touches _ p g body _ Path.noConfusion))

/-- all possible results of `build v p cfg st i` when the grammar file `i` contains `g` -/
inductive BuildRes (v : Variant) (p : Params) (cfg : Cfg) (st : St) (i : Nat) (g : Bytes) :
    Outcome × St → Prop where
  | headerErr (f : File) : cfg.force = false → st.fs (.rs i) = some f →
      headerUtf8 f.data = false → v.utf8Tolerant = false →
      BuildRes v p cfg st i g (.ioErr .headerNotUtf8, st)
  | upToDate (f : File) : cfg.force = false → st.fs (.rs i) = some f → Accepts v p g f.data →
      BuildRes v p cfg st i g (.upToDate, st)
  | grammarNotUtf8 : Need v p cfg st i g → validUtf8 g = false →
      BuildRes v p cfg st i g (.ioErr .grammarNotUtf8, applyActs st (loadFailActs v i))
  | genErr (e : Nat) (st' : St) : Need v p cfg st i g → validUtf8 g = true →
      (p.gen g).result = .error e → st'.fs (.rs i) = none → RunEffect p i st st' →
      BuildRes v p cfg st i g (.genErr e, st')
  | built (body : Bytes) (c : Nat) (st' : St) : Need v p cfg st i g → validUtf8 g = true →
      (p.gen g).result = .ok body → st'.fs (.rs i) = some ⟨canon p g body, c⟩ →
      st.clock ≤ c → RunEffect p i st st' →
      BuildRes v p cfg st i g (.built, st')

theorem build_res (hs : v.Sound) (p : Params) (cfg : Cfg) (st : St) (i : Nat) (g : Bytes)
    (hg : st.gr i = some g) : BuildRes v p cfg st i g (build v p cfg st i) := by
  have hpre := applyActs_remove_noRs (reportActs_noRs cfg i (p.gen g).reports) st i
  rw [build_eq]
  rcases need_cases v p cfg st i g with hn | ⟨hf, f, hfi, hacc | ⟨hu, ht⟩⟩
  · cases hu : validUtf8 g with
    | false =>
      rw [plan_notUtf8 hg hn hu]
      exact .grammarNotUtf8 hn hu
    | true =>
      cases hr : (p.gen g).result with
      | error e =>
        rw [plan_genErr hg hn hu hr]
        exact .genErr e _ hn hu hr hpre.1 (.remove (reportActs_noRs _ _ _) p st i)
      | ok body =>
        rw [plan_built hg hn hu hr, applyActs_append]
        -- the stamp of the new output is the clock after the old one is removed and the reports written
        obtain ⟨h1, h2⟩ := applyActs_output hs
          (applyActs st (.remove (.rs i) :: reportActs cfg i (p.gen g).reports)) i g body
        exact .built body _ _ hn hu hr h1 (applyActs_clock_le _ _)
          ⟨(applyActs_gr _ _).trans (applyActs_gr _ _), fun j hj => (h2 j hj).trans (hpre.2 j hj),
            Or.inr (Or.inr ⟨g, body, _, hg, hr, h1⟩)⟩
  · rw [plan_upToDate hg hf hfi hacc]
    exact .upToDate f hf hfi hacc
  · rw [plan_headerErr hg hf hfi hu ht]
    exact .headerErr f hf hfi hu ht

theorem build_missing (v : Variant) (p : Params) (cfg : Cfg) (st : St) (i : Nat)
    (hg : st.gr i = none) :
    (∃ e, (build v p cfg st i).1 = .ioErr e) ∧ RunEffect p i st (build v p cfg st i).2 := by
  rw [build_eq]
  rcases plan_missing v p cfg hg with ⟨e, h⟩ | h
  · rw [h]
    exact ⟨⟨e, rfl⟩, .refl p i st⟩
  · rw [h]
    exact ⟨⟨_, rfl⟩, loadFail_effect v st i⟩

theorem build_effect (hs : v.Sound) (p : Params) (cfg : Cfg) (st : St) (i : Nat) :
    RunEffect p i st (build v p cfg st i).2 := by
  cases hg : st.gr i with
  | none => exact (build_missing v p cfg st i hg).2
  | some g =>
    have hres := build_res hs p cfg st i g hg
    generalize build v p cfg st i = r at hres
    cases hres with
    | headerErr => exact .refl p i st
    | upToDate => exact .refl p i st
    | grammarNotUtf8 => exact loadFail_effect v st i
    | genErr _ _ _ _ _ _ he => exact he
    | built _ _ _ _ _ _ _ _ he => exact he

variable {Good : Bytes → Bytes → Prop}

theorem RunEffect.inv (hp : HeaderOk p) (hinj : HashInj p) (hgs : GoodSpec p Good) {st st' : St}
    (h : RunEffect p i st st') (hinv : Inv Good v p st) : Inv Good v p st' := by
  intro j f hf
  by_cases hj : j = i
  · subst hj
    rcases h.own with e | e | ⟨g, body, c, _, hgen, e⟩
    · exact hinv j f (e ▸ hf)
    · rw [e] at hf; cases hf
    · rw [e] at hf; cases hf; exact honest_canon hp hinj hgs hgen
  · exact hinv j f (h.frame j hj ▸ hf)

theorem inv_setFs {st st' : St} (hinv : Inv Good v p st) {x : Option File}
    (hfs : st'.fs = setFs st.fs (.rs i) x) (hx : ∀ f, x = some f → Honest Good v p f.data) :
    Inv Good v p st' := by
  intro j f hf
  rw [hfs] at hf
  by_cases hj : j = i
  · subst hj; rw [setFs_same] at hf; exact hx f hf
  · rw [setFs_other _ _ (mt Path.rs.inj hj)] at hf; exact hinv j f hf

theorem build_inv (hp : HeaderOk p) (hinj : HashInj p) (hgs : GoodSpec p Good)
    (hs : v.Sound) (cfg : Cfg) (st : St) (i : Nat) (hinv : Inv Good v p st) :
    Inv Good v p (build v p cfg st i).2 :=
  (build_effect hs p cfg st i).inv hp hinj hgs hinv

theorem buildDir_inv (hp : HeaderOk p) (hinj : HashInj p) (hgs : GoodSpec p Good)
    (hs : v.Sound) (cfg : Cfg) (ids : List Nat) (st : St) (hinv : Inv Good v p st) :
    Inv Good v p (buildDir v p cfg st ids).2 := by
  induction ids generalizing st with
  | nil => exact hinv
  | cons i ids ih =>
    rw [buildDir_cons]
    split
    · exact ih _ (build_inv hp hinj hgs hs cfg st i hinv)
    · exact build_inv hp hinj hgs hs cfg st i hinv

end LalrpopModel.Build
