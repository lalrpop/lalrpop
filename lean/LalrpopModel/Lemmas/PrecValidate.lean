import LalrpopModel.Lemmas.PrecTiers
/-!
`validate_precedence` (repaired validator, `fixed = true`) establishes everything
`expand_nonterm` relies on: the loop invariant links the validator's state
(`min_lvl`, `min_prec_ann`, `last_lvl`) to the effective annotations computed by the fold.
-/
namespace LalrpopModel.Prec
open LalrpopModel.PT

theorem parseDigits_le (cs : List Char) (acc n : Nat) (h : parseDigits cs acc = some n) (hacc : acc ≤ U32_MAX) :
    n ≤ U32_MAX := by
  induction cs generalizing acc with
  | nil => cases h; exact hacc
  | cons c cs ih =>
    simp only [parseDigits] at h
    cases hd : digitVal c with
    | none => simp [hd] at h
    | some d =>
      simp only [hd] at h
      split at h
      · simp at h
      · rename_i hle
        exact ih _ h (Nat.le_of_not_gt hle)

theorem parseU32_le (s : Str) (n : Nat) (h : parseU32 s = some n) : n ≤ U32_MAX := by
  unfold parseU32 at h
  split at h
  · cases h
  · split at h
    · cases h
    · exact parseDigits_le _ 0 n h (Nat.zero_le _)
  · split at h
    · exact parseDigits_le _ 0 n h (Nat.zero_le _)
    · exact parseDigits_le _ 0 n h (Nat.zero_le _)

theorem ownLevel_le (alt : Alt) (lvl : Nat) (h : ownLevel alt = some lvl) : lvl ≤ U32_MAX := by
  obtain ⟨p, _, h⟩ := Option.bind_eq_some_iff.mp h
  obtain ⟨v, _, h⟩ := Option.bind_eq_some_iff.mp h
  exact parseU32_le v lvl h

/-- the validator's update for an alternative of effective level `lvl`: the branch of
    `validateLevelArg` behind a readable `precedence` attribute -/
def VState.see (st : VState) (lvl : Nat) (hasAssoc : Bool) : VState :=
  if lvl < st.minLvl then { minLvl := lvl, minAnn := hasAssoc, lastLvl := lvl }
  else if lvl = st.minLvl ∧ st.minAnn = false ∧ hasAssoc then { st with minAnn := true, lastLvl := lvl }
  else { st with lastLvl := lvl }

theorem lastLvl_see (st : VState) (lvl : Nat) (b : Bool) : (st.see lvl b).lastLvl = lvl := by
  unfold VState.see
  split
  · rfl
  · split <;> rfl

theorem validateLevelArg_some (st st' : VState) (p : Attr) (q : Option Attr)
    (h : validateLevelArg true st (some p) q = .ok st') :
    ∃ lvl, (argValue p).bind parseU32 = some lvl ∧ st' = st.see lvl q.isSome := by
  unfold validateLevelArg at h
  unfold argValue
  cases hg : p.getArgEqual with
  | none => simp [hg] at h
  | some kv =>
    simp only [hg] at h
    split at h
    · cases hl : parseU32 kv.2 with
      | none => simp [hl] at h
      | some lvl =>
        simp only [hl] at h
        rw [← apply_ite Except.ok, ← apply_ite Except.ok] at h
        exact ⟨lvl, by simp [hl], (Except.ok.inj h).symm⟩
    · cases h

/-- an alternative that inherits its level is treated (by the repaired validator) like one that
    declares the level of its predecessor -/
theorem validateLevelArg_none (st : VState) (q : Option Attr) (h : st.minLvl ≤ st.lastLvl) :
    validateLevelArg true st none q = .ok (st.see st.lastLvl q.isSome) := by
  obtain ⟨m, a, l⟩ := st
  have h : ¬ l < m := Nat.not_lt.mpr h
  simp only [validateLevelArg, VState.see, h, if_false, true_and]
  by_cases e : l = m
  · cases a <;> cases q.isSome <;> simp [e]
  · simp [e]

theorem validateAssocArg_ok (alt : Alt) (h : validateAssocArg (assocAttr alt) = .ok ()) :
    (assocAttr alt).isSome → (ownAssoc alt).isSome := by
  unfold ownAssoc argValue
  cases ha : assocAttr alt with
  | none => exact id
  | some q =>
    intro _
    rw [ha] at h
    simp only [validateAssocArg] at h
    split at h
    · rename_i name value hg
      split at h
      · split at h
        · cases h
        · rename_i hx
          rw [Option.bind_some, hg]
          exact Option.isNone_eq_false_iff.mp (Bool.eq_false_iff.mpr hx)
      · cases h
    · cases h

theorem validateStep_ok (st st' : VState) (alt : Alt) (h : validateStep true st alt = .ok st')
    (hl : precAttr alt = none → st.minLvl ≤ st.lastLvl) :
    Readable alt ∧ st' = st.see (effLevel st.lastLvl alt) (assocAttr alt).isSome := by
  simp only [validateStep] at h
  split at h
  · cases h
  · rename_i s1 h1
    split at h
    · cases h
    · rename_i h2
      cases Except.ok.inj h
      replace h1 : validateLevelArg true st (precAttr alt) (assocAttr alt) = .ok st' := h1
      have hassoc := validateAssocArg_ok alt h2
      cases hp : precAttr alt with
      | none =>
        rw [hp, validateLevelArg_none st _ (hl hp)] at h1
        rw [effLevel_of_no_precAttr _ alt hp]
        exact ⟨⟨fun e => Bool.noConfusion (hp ▸ e), hassoc⟩, (Except.ok.inj h1).symm⟩
      | some p =>
        rw [hp] at h1
        obtain ⟨lvl, hlvl, e⟩ := validateLevelArg_some st _ p _ h1
        have hown : ownLevel alt = some lvl := by rw [ownLevel, hp]; exact hlvl
        rw [effLevel, hown]
        exact ⟨⟨fun _ => by rw [hown]; rfl, hassoc⟩, e⟩

/-- what the validator's state says about the annotated alternatives seen so far: `minLvl` is
    their lowest level (`U32_MAX` before the first), and while `minAnn` is unset every one of them
    on that level is fully associative -/
structure VInv (st : VState) (pre : List Ann) : Prop where
  lower : ∀ a ∈ pre, st.minLvl ≤ a.lvl
  attained : (pre = [] ∧ st.minLvl = U32_MAX) ∨ ∃ a ∈ pre, a.lvl = st.minLvl
  clean : st.minAnn = false → ∀ a ∈ pre, a.lvl = st.minLvl → a.assoc = .fullyAssoc

theorem vinv_push {st : VState} {pre : List Ann} (h : VInv st pre) (b : Ann) (hasAssoc : Bool)
    (hle : pre = [] → b.lvl ≤ U32_MAX)
    (hb : hasAssoc = false →
      b.assoc = .fullyAssoc ∨ ∃ c ∈ pre, c.lvl = b.lvl ∧ c.assoc = b.assoc) :
    VInv (st.see b.lvl hasAssoc) (pre ++ [b]) := by
  obtain ⟨hlower, hatt, hclean⟩ := h
  have snoc : ∀ {P : Ann → Prop}, (∀ a ∈ pre, P a) → P b → ∀ a ∈ pre ++ [b], P a := fun h1 h2 =>
    List.forall_mem_append.mpr ⟨h1, List.forall_mem_singleton.mpr h2⟩
  have hbmem : b ∈ pre ++ [b] := List.mem_append_right _ (List.mem_singleton_self b)
  unfold VState.see
  by_cases c1 : b.lvl < st.minLvl
  · -- a new lowest level: `b` is alone on it
    rw [if_pos c1]
    have hnot : ∀ a ∈ pre, a.lvl ≠ b.lvl := fun a m e =>
      Nat.lt_irrefl _ (Nat.lt_of_lt_of_le (e ▸ c1) (hlower a m))
    exact ⟨snoc (fun a m => Nat.le_of_lt (Nat.lt_of_lt_of_le c1 (hlower a m))) (Nat.le_refl _),
      .inr ⟨b, hbmem, rfl⟩,
      fun hn => snoc (fun a m hal => absurd hal (hnot a m)) fun _ =>
        (hb hn).elim id fun ⟨c, hc, hcl, _⟩ => absurd hcl (hnot c hc)⟩
  · rw [if_neg c1]
    have hge : st.minLvl ≤ b.lvl := Nat.le_of_not_lt c1
    have hlower' := snoc hlower hge
    have hatt' : (pre ++ [b] = [] ∧ st.minLvl = U32_MAX) ∨ ∃ a ∈ pre ++ [b], a.lvl = st.minLvl := by
      rcases hatt with ⟨e, hm⟩ | ⟨w, hw, hwl⟩
      · exact .inr ⟨b, hbmem, Nat.le_antisymm (hm ▸ hle e) hge⟩
      · exact .inr ⟨w, List.mem_append_left _ hw, hwl⟩
    by_cases c2 : b.lvl = st.minLvl ∧ st.minAnn = false ∧ hasAssoc = true
    · rw [if_pos c2]
      exact ⟨hlower', hatt', fun hn => Bool.noConfusion hn⟩
    · rw [if_neg c2]
      refine ⟨hlower', hatt', fun hn => snoc (hclean hn) fun hal => ?_⟩
      have hno : hasAssoc = false := by
        cases hasAssoc with
        | false => rfl
        | true => exact absurd ⟨hal, hn, rfl⟩ c2
      exact (hb hno).elim id fun ⟨c, hc, hcl, hca⟩ => hca ▸ hclean hn c hc (hcl.trans hal)

theorem vinv_step {st : VState} {pre : List Ann} (hinv : VInv st pre) (a0 : Assoc) (alt : Alt)
    (hr : Readable alt)
    (hinh : precAttr alt = none → ∃ c ∈ pre, c.lvl = st.lastLvl ∧ c.assoc = a0) :
    VInv (st.see (effLevel st.lastLvl alt) (assocAttr alt).isSome)
      (pre ++ [⟨effLevel st.lastLvl alt, effAssoc a0 alt, stripAttrs alt⟩]) := by
  refine vinv_push hinv ⟨_, _, _⟩ _ (fun e => ?_) (fun hn => ?_)
  · show effLevel st.lastLvl alt ≤ U32_MAX
    cases hp : precAttr alt with
    | none => obtain ⟨c, hc, _⟩ := hinh hp; rw [e] at hc; cases hc
    | some p =>
      obtain ⟨lvl, hlvl⟩ := Option.isSome_iff_exists.mp (hr.1 (hp ▸ rfl))
      rw [effLevel, hlvl]
      exact ownLevel_le alt lvl hlvl
  · show effAssoc a0 alt = _ ∨ ∃ c ∈ pre, c.lvl = effLevel st.lastLvl alt ∧ c.assoc = effAssoc a0 alt
    rw [effAssoc_of_no_assocAttr a0 alt (Option.not_isSome_iff_eq_none.mp (Bool.eq_false_iff.mp hn))]
    cases hp : precAttr alt with
    | some p => exact .inl rfl
    | none =>
      rw [effLevel_of_no_precAttr _ alt hp]
      exact .inr (hinh hp)

/-- The loop keeps the invariant.  The fold accumulator `(l0, a0)` of `expand_nonterm` is the
    annotation of some earlier alternative, unless there is none yet, and then the next alternative
    declares its own level (`validate_precedence` looks at the first alternative before the loop). -/
theorem vinv_loop (alts : List Alt) :
    ∀ (st : VState) (l0 : Nat) (a0 : Assoc) (pre : List Ann) (st' : VState),
      VInv st pre → st.lastLvl = l0 →
      ((pre = [] ∧ ∀ alt, alts.head? = some alt → precAttr alt ≠ none) ∨
        ∃ c ∈ pre, c.lvl = l0 ∧ c.assoc = a0) →
      validateLoop true st alts = .ok st' →
      (∀ alt ∈ alts, Readable alt) ∧ VInv st' (pre ++ inherit l0 a0 alts) := by
  induction alts with
  | nil =>
    intro st l0 a0 pre st' hinv _ _ h
    cases Except.ok.inj h
    exact ⟨List.forall_mem_nil _, by rw [inherit, List.append_nil]; exact hinv⟩
  | cons alt alts ih =>
    intro st l0 a0 pre st' hinv hlast hlink h
    subst hlast
    have hinh : precAttr alt = none → ∃ c ∈ pre, c.lvl = st.lastLvl ∧ c.assoc = a0 :=
      fun hp => hlink.resolve_left fun hd => hd.2 alt rfl hp
    rw [validateLoop] at h
    split at h
    · cases h
    · rename_i s1 hs
      obtain ⟨hr, rfl⟩ := validateStep_ok st s1 alt hs (fun hp => by
        obtain ⟨c, hc, hcl, _⟩ := hinh hp
        exact hcl ▸ hinv.lower c hc)
      obtain ⟨hrs, hfin⟩ := ih _ _ _ _ st' (vinv_step hinv a0 alt hr hinh) (lastLvl_see ..)
        (.inr ⟨_, List.mem_append_right _ (List.mem_singleton_self _), rfl, rfl⟩) h
      rw [List.append_assoc] at hfin
      exact ⟨List.forall_mem_cons.mpr ⟨hr, hrs⟩, hfin⟩

theorem validatePrecedence_ok (fixed : Bool) (first : Alt) (rest : List Alt)
    (hany : (first :: rest).any (fun alt => alt.attrs.any isPrecOrAssoc) = true)
    (hv : validatePrecedence fixed (first :: rest) = .ok ()) :
    precAttr first ≠ none ∧
      ∃ st, validateLoop fixed { minLvl := U32_MAX, minAnn := false, lastLvl := 0 } (first :: rest) = .ok st ∧
        st.minAnn = false := by
  simp only [validatePrecedence] at hv
  rw [if_neg (fun h => absurd hany (h.resolve_left Bool.noConfusion))] at hv
  split at hv
  · cases hv
  · rename_i hfirst
    split at hv
    · cases hv
    · rename_i st hloop
      split at hv
      · cases hv
      · rename_i hmin
        exact ⟨fun e => hfirst (congrArg Option.isNone e), st, hloop, Bool.eq_false_iff.mpr hmin⟩

/-- **Validation (repaired validator) makes expansion total.** -/
theorem validated_expand_ok (nt : Nonterm)
    (hv : validatePrecedence true nt.alts = .ok ()) (hp : hasPrecAttr nt = true)
    (hamb : ∀ alt ∈ nt.alts, noAmbigL alt.expr = true) :
    expandNonterm nt = .ok (tiered nt (inherit 0 .fullyAssoc nt.alts)) := by
  unfold hasPrecAttr at hp
  cases halts : nt.alts with
  | nil => rw [halts] at hp; cases hp
  | cons first rest =>
    rw [halts] at hp hv
    obtain ⟨hfirst, stf, hloop, hclean⟩ :=
      validatePrecedence_ok true first rest (by rw [List.any_cons, show first.attrs.any _ = true from hp]; rfl) hv
    obtain ⟨hread, hfin⟩ := vinv_loop (first :: rest) _ 0 .fullyAssoc [] stf
      ⟨List.forall_mem_nil _, .inl ⟨rfl, rfl⟩, fun _ => List.forall_mem_nil _⟩ rfl (.inl ⟨rfl, fun alt e => by cases e; exact hfirst⟩) hloop
    rw [List.nil_append, ← halts] at hfin
    rw [← halts] at hread ⊢
    refine expandNonterm_eq_tiered nt hread (halts ▸ List.cons_ne_nil _ _) hamb ?_
    intro a ha hmin
    rcases hfin.attained with ⟨e, _⟩ | ⟨w, hw, hwl⟩
    · rw [e] at ha; cases ha
    · exact hfin.clean hclean a ha (Nat.le_antisymm (hwl ▸ hmin w hw) (hfin.lower a ha))

theorem validateItems_ok (fixed : Bool) (items : List Item) (h : validateItems fixed items = .ok ()) :
    ∀ nt, Item.nonterm nt ∈ items → validatePrecedence fixed nt.alts = .ok () := by
  induction items with
  | nil => exact fun _ m => absurd m List.not_mem_nil
  | cons it items ih =>
    intro nt hnt
    cases it with
    | nonterm n =>
      simp only [validateItems] at h
      cases hn : validatePrecedence fixed n.alts with
      | error e => simp [hn] at h
      | ok u =>
        simp only [hn] at h
        rcases List.mem_cons.mp hnt with e | m
        · cases e; exact hn
        · exact ih h nt m
    | externTok _ _ | other _ => exact ih h nt ((List.mem_cons.mp hnt).resolve_left (fun e => nomatch e))

end LalrpopModel.Prec
