import LalrpopModel.Lemmas.LRTermInv
/-!
C08 termination: the whole run, error recovery on or off.

Accounting in units of `F + 1` machine steps. A reduce loop that frees `d` stack levels, together
with the step that ends it and the single step that led to it, costs `d + 1` units and adds fewer
than `F` levels; any other step costs at most one unit. A
configuration in phase `.pull` with stack height `h` and `r` items left in the stream is given the
budget `h + (r+1)·M`: it bounds the units still to be spent and the height the stack can still
reach (so one `accepts` fuel, chosen for the bound `X` on the first budget, serves the whole run).
`M` units per item suffice when `F + 1 ≤ M` without error recovery (one parse loop, then a shift)
and when `3·F + 4 ≤ M` with it (the parse loop that meets the error, the reduce loop of
`error_recovery`, the parse loop after the push — which, being certified by `accepts`, shifts the
lookahead or ends the run).
-/
namespace LalrpopModel.LR.Term
open LalrpopModel.LR LalrpopModel.LR.Generic

variable {T : Tables} {F af : Nat} {failAt : Option Nat} {startLoc : Int}

section
variable {M X : Nat}

def PullOK (T : Tables) (F af : Nat) (failAt : Option Nat) (startLoc : Int) (M X : Nat)
    (input : List Item) : Prop :=
  ∀ c : Cfg, c.input = input → Adj T c.states →
    Ends T F af failAt startLoc X c .pull (c.states.length + (input.length + 1) * M)

def FindOK (T : Tables) (F af : Nat) (failAt : Option Nat) (startLoc : Int) (M X : Nat)
    (input : List Item) : Prop :=
  ∀ (c : Cfg) (t : Tok) (i : Term) (e : PErr) (dropped : List Tok) (sl : Nat) (fe : Bool),
    c.input = input → i < T.nTerm → Adj T c.states →
    Ends T F af failAt startLoc X c (.recFind (some (t, i)) e dropped sl fe)
      (c.states.length + ((input.length + 1) * M + (F + 2)))

/-- `'find_state` at the end of input: the run ends, at the latest in the `parse_eof` loop that
    follows the push (the stack being certified, that loop does not call `error_recovery` again) -/
theorem find_none (hT : TermOK T F) (hrec : T.usesRecovery = true) (haf : accFuel F X ≤ af) (c : Cfg)
    (hadj : Adj T c.states) (e : PErr) (dropped : List Tok) (sl : Nat) (fe : Bool) :
    Ends T F af failAt startLoc X c (.recFind none e dropped sl fe) (c.states.length + (F + 1)) := by
  refine .intro fun hX => ?_
  have hf := step_find hT hrec af failAt startLoc c hadj none trivial e dropped sl fe
  generalize hs : step T af failAt startLoc c (.recFind none e dropped sl fe) = x at hf
  cases hf with
  | done hr =>
    have h1 : 1 ≤ F + 1 := Nat.le_add_left 1 F
    exact .single_done hs (hr (fuel_le haf (Nat.le_trans (Nat.add_le_add_left h1 _) hX)))
      (Nat.le_trans h1 (Nat.le_add_left _ _))
  | @push _ c' _ hph hadj' hlen' _ hcert =>
    subst hph
    have hb : c'.states.length + F ≤ c.states.length + (F + 1) := budget_push hlen' (Nat.le_refl _)
    obtain ⟨n, c'', ph'', d, hrun, hn, hres⟩ :=
      eof_phase hT failAt startLoc c' hadj' (fuel_le haf (Nat.le_trans hb hX))
    cases hres with
    | done hr hd => exact .of_run (run_cons hs hrun) hr hn (Nat.le_trans hd hb)
    | eofRec _ _ hno => exact (hno af hcert).elim

theorem rec_then_find (hT : TermOK T F) (hrec : T.usesRecovery = true) (c : Cfg) (hadj : Adj T c.states)
    (la : Option (Tok × Term)) (e : PErr) (fe : Bool) {nf : Nat}
    (hfind : ∀ (c' : Cfg) (sl : Nat), c'.input = c.input → Adj T c'.states →
      Ends T F af failAt startLoc X c' (.recFind la e [] sl fe) (c'.states.length + nf)) :
    Ends T F af failAt startLoc X c (.recReduce la e fe) (c.states.length + (nf + (F + 1))) := by
  obtain ⟨n, c', ph', d, hrun, hn, hres⟩ :=
    rec_phase hT hrec af failAt startLoc c hadj la e fe
  cases hres with
  | done hr hd =>
    exact .of_run hrun hr (Nat.le_of_succ_le hn)
      (budget_done hd (Nat.le_trans (Nat.le_succ F) (Nat.le_add_left _ nf)))
  | toFind hc' =>
    exact .after hrun (Nat.le_of_succ_le hn) (budget_step hc'.height (Nat.le_refl _))
      (hfind c' _ hc'.input hc'.adj)

/-- after the push (the step `hs` out of `'find_state` led to `c`): the certified parse loop, then
    the rest of the stream -/
theorem after_push (hT : TermOK T F) (haf : accFuel F X ≤ af) {input : List Item}
    (hP : PullOK T F af failAt startLoc M X input) {c0 c : Cfg} {ph0 : Phase} {t : Tok} {i : Term}
    {fe : Bool} (hs : step T af failAt startLoc c0 ph0 = (c, afterPh (some (t, i)) fe))
    (hi : i < T.nTerm) (hc : c.input = input) (hadj : Adj T c.states)
    (hcert : accepts T af c.states (some i) = .ok true) :
    Ends T F af failAt startLoc X c0 ph0 (c.states.length + ((input.length + 1) * M + (F + 1))) := by
  refine .intro fun hX => ?_
  have hF : F ≤ (input.length + 1) * M + (F + 1) := Nat.le_trans (Nat.le_succ F) (Nat.le_add_left _ _)
  cases fe with
  | true =>
    exact .single_done hs (by simp)
      (Nat.le_trans (Nat.le_add_left 1 F) (Nat.le_trans (Nat.le_add_left _ _) (Nat.le_add_left _ _)))
  | false =>
    obtain ⟨n, c', ph', d, hrun, hn, hres⟩ :=
      act_phase hT failAt startLoc hi t c hadj
        (fuel_le haf (Nat.le_trans (Nat.add_le_add_left hF _) hX))
    cases hres with
    | done hr hd => exact .of_run (run_cons hs hrun) hr hn (budget_done hd hF)
    | shift hc' =>
      exact .after (run_cons hs hrun) hn (budget_step hc'.height (Nat.le_refl _))
        (hP c' (hc'.input.trans hc) hc'.adj)
    | actRec _ _ hno => exact (hno af hcert).elim

theorem find_ok (hT : TermOK T F) (hrec : T.usesRecovery = true) (haf : accFuel F X ≤ af)
    (hM : 1 ≤ M) {input : List Item} (hin : InRange T input)
    (hP : PullOK T F af failAt startLoc M X input)
    (hF : ∀ it rest, input = it :: rest → FindOK T F af failAt startLoc M X rest) :
    FindOK T F af failAt startLoc M X input := by
  intro c t i e dropped sl fe hc hi hadj
  refine .intro fun hX => ?_
  have hf := step_find hT hrec af failAt startLoc c hadj (some (t, i)) hi e dropped sl fe
  generalize hs : step T af failAt startLoc c (.recFind (some (t, i)) e dropped sl fe) = x at hf
  cases hf with
  | done hr =>
    have h1 : 1 ≤ (input.length + 1) * M + (F + 2) :=
      Nat.le_trans (Nat.le_add_left 1 (F + 1)) (Nat.le_add_left _ _)
    exact .single_done hs (hr (fuel_le haf (Nat.le_trans (Nat.add_le_add_left h1 _) hX)))
      (Nat.le_trans h1 (Nat.le_add_left _ _))
  | push hph hadj' hlen' hin' hcert =>
    subst hph
    exact (after_push hT haf hP hs hi (hin'.trans hc) hadj' hcert).mono
      (budget_push (need' := (input.length + 1) * M + (F + 1)) hlen' (Nat.le_refl _))
  | @drop _ t' _ i' rest hinp hk =>
    obtain rfl : input = .tok t' :: rest := hc ▸ hinp
    rw [List.length_cons, Nat.succ_mul]
    refine .single hs (budget_single ?_)
      (hF _ rest rfl (pullTokCfg c t' rest) t' i' e (dropped ++ [t]) sl fe rfl (hin.head hk) hadj)
    rw [Nat.add_right_comm _ M]
    exact Nat.add_le_add_left hM _
  | dropEof _ =>
    exact .single hs (budget_single (Nat.le_add_left _ _))
      (find_none hT hrec haf { c with pulled := c.pulled + 1 } hadj e (dropped ++ [t]) sl fe)

theorem pull_ok (hT : TermOK T F) (haf : accFuel F X ≤ af) (hM : F + 1 ≤ M)
    (hMr : T.usesRecovery = true → 3 * F + 4 ≤ M) {input : List Item} (hin : InRange T input)
    (hP : ∀ it rest, input = it :: rest → PullOK T F af failAt startLoc M X rest)
    (hF : T.usesRecovery = true → ∀ it rest, input = it :: rest →
      FindOK T F af failAt startLoc M X rest) :
    PullOK T F af failAt startLoc M X input := by
  intro c hc hadj
  refine .intro fun hX => ?_
  have hFM : F ≤ M := Nat.le_of_succ_le hM
  rcases nextToken_cases hT af c hadj with ⟨hinp, hnt⟩ | ⟨t, i, rest, hinp, hk, hnt⟩ |
    ⟨c', r, hnt, hr⟩
  · -- end of input: the loop of `parse_eof`
    obtain rfl : input = [] := hc ▸ hinp
    rw [List.length_nil, Nat.zero_add, Nat.one_mul] at hX ⊢
    have hs := step_pull (failAt := failAt) (startLoc := startLoc) hnt
    obtain ⟨n, c1, ph1, d, hrun, hn, hres⟩ :=
      eof_phase hT failAt startLoc { c with pulled := c.pulled + 1 } hadj
        (fuel_le haf (Nat.le_trans (Nat.add_le_add_left hFM _) hX))
    cases hres with
    | done hr hd => exact .of_run (run_cons hs hrun) hr hn (budget_done hd hFM)
    | @eofRec pe hrec hc1 _ =>
      have hneed : F + 1 + (F + 1) + (F + 1) ≤ M := by have := hMr hrec; omega
      exact .after (run_cons hs hrun) hn (budget_step hc1.height hneed)
        (rec_then_find hT hrec c1 hc1.adj none pe true
          fun c' sl _ hadj' => find_none hT hrec haf c' hadj' pe [] sl true)
  · -- a token: the loop of `parse` under it
    obtain rfl : input = .tok t :: rest := hc ▸ hinp
    rw [List.length_cons, Nat.succ_mul] at hX ⊢
    have hFRM : F ≤ (rest.length + 1) * M + M := Nat.le_trans hFM (Nat.le_add_left _ _)
    have hi : i < T.nTerm := hin.head hk
    have hs := step_pull (failAt := failAt) (startLoc := startLoc) hnt
    obtain ⟨n, c2, ph2, d, hrun, hn, hres⟩ :=
      act_phase hT failAt startLoc hi t
        { c with input := rest, pulled := c.pulled + 1, lastLoc := t.r } hadj
        (fuel_le haf (Nat.le_trans (Nat.add_le_add_left hFRM _) hX))
    cases hres with
    | done hr hd => exact .of_run (run_cons hs hrun) hr hn (budget_done hd hFRM)
    | shift hc2 =>
      exact .after (run_cons hs hrun) hn (budget_step hc2.height (Nat.add_le_add_left hM _))
        (hP _ rest rfl c2 hc2.input hc2.adj)
    | @actRec _ _ pe hrec hc2 _ =>
      have hneed : (rest.length + 1) * M + (F + 2) + (F + 1) + (F + 1) ≤ (rest.length + 1) * M + M := by
        have := hMr hrec; omega
      exact .after (run_cons hs hrun) hn (budget_step hc2.height hneed)
        (rec_then_find hT hrec c2 hc2.adj (some (t, i)) pe false
          fun c' sl hin' hadj' => hF hrec _ rest rfl c' t i pe [] sl false (hin'.trans hc2.input) hi hadj')
  · have h1 : 1 ≤ (input.length + 1) * M :=
      Nat.le_trans (Nat.le_trans (Nat.le_add_left 1 F) hM) (Nat.le_mul_of_pos_left M (Nat.succ_pos _))
    exact .single_done (step_pull hnt) (hr (fuel_le haf (Nat.le_trans (Nat.le_add_right _ _) hX)))
      (Nat.le_trans h1 (Nat.le_add_left _ _))

theorem pull_find_ok (hT : TermOK T F) (haf : accFuel F X ≤ af) (hM : F + 1 ≤ M)
    (hMr : T.usesRecovery = true → 3 * F + 4 ≤ M) (input : List Item) (hin : InRange T input) :
    PullOK T F af failAt startLoc M X input ∧
      (T.usesRecovery = true → FindOK T F af failAt startLoc M X input) := by
  have hM1 : 1 ≤ M := Nat.le_trans (Nat.le_add_left 1 F) hM
  induction input with
  | nil =>
    have hP := pull_ok (failAt := failAt) (startLoc := startLoc) hT haf hM hMr hin
      (fun _ _ h => by cases h) (fun _ _ _ h => by cases h)
    exact ⟨hP, fun hrec => find_ok hT hrec haf hM1 hin hP (fun _ _ h => by cases h)⟩
  | cons it rest ih =>
    obtain ⟨ihP, ihF⟩ := ih hin.tail
    have hP := pull_ok (failAt := failAt) (startLoc := startLoc) hT haf hM hMr hin
      (fun _ _ h => by cases h; exact ihP) (fun hrec _ _ h => by cases h; exact ihF hrec)
    exact ⟨hP, fun hrec => find_ok hT hrec haf hM1 hin hP (fun _ _ h => by cases h; exact ihF hrec)⟩

theorem init_ends (hT : TermOK T F) (hM : F + 1 ≤ M) (hMr : T.usesRecovery = true → 3 * F + 4 ≤ M)
    (input : List Item) (hin : InRange T input) (haf : accFuel F (1 + (input.length + 1) * M) ≤ af) :
    Ends T F af failAt startLoc (1 + (input.length + 1) * M) (init startLoc input) .pull
      (1 + (input.length + 1) * M) :=
  (pull_find_ok hT haf hM hMr input hin).1 (init startLoc input) rfl .base

end

/-- steps charged to one token (and to the end of input) -/
def termM (F : Nat) : Nat := (F + 1) * (F + 1) + F + 2

/-- bound on the number of machine steps of a whole run on `len` stream items -/
def termBound (F len : Nat) : Nat := (F + 1) + (len + 1) * termM F

/-- `accepts` fuel that suffices for a whole run on `len` stream items -/
def termAccFuel (F len : Nat) : Nat := accFuel F (1 + (len + 1) * (F + 1))

theorem init_terminates (hT : TermOK T F) (hrec : T.usesRecovery = false) (input : List Item)
    (hin : InRange T input) (haf : termAccFuel F input.length ≤ af) :
    ∃ n c r, n ≤ termBound F input.length ∧
      run T af failAt startLoc n (init startLoc input) .pull = (c, .done r) ∧ r ≠ .panic .outOfFuel := by
  obtain ⟨n, c, r, hrun, hr, hn⟩ := (init_ends (failAt := failAt) (startLoc := startLoc) hT
    (Nat.le_refl (F + 1)) (fun h => by rw [hrec] at h; cases h) input hin haf).ex (Nat.le_refl _)
  refine ⟨n, c, r, Nat.le_trans hn ?_, hrun, hr⟩
  unfold termBound termM
  rw [Nat.mul_add, Nat.mul_one, Nat.mul_left_comm]
  exact Nat.add_le_add_left (Nat.mul_le_mul_left _ (by omega)) _

/-- units of `F + 1` steps charged to one stream item (`3·F + 4` would do, see `pull_ok`) -/
def recM (F : Nat) : Nat := 3 * F + 7

/-- bound on the number of machine steps of a whole run on `len` stream items (recovery on or off) -/
def termBoundRec (F len : Nat) : Nat := (F + 1) * (1 + (len + 1) * recM F)

/-- `accepts` fuel that suffices for a whole run on `len` stream items (recovery on or off) -/
def termAccFuelRec (F len : Nat) : Nat := accFuel F (1 + (len + 1) * recM F)

theorem init_terminates_rec (hT : TermOK T F) (input : List Item) (hin : InRange T input)
    (haf : termAccFuelRec F input.length ≤ af) :
    ∃ n c r, n ≤ termBoundRec F input.length ∧
      run T af failAt startLoc n (init startLoc input) .pull = (c, .done r) ∧ r ≠ .panic .outOfFuel := by
  have hm : recM F = 3 * F + 7 := rfl
  obtain ⟨n, c, r, hrun, hr, hn⟩ := (init_ends (failAt := failAt) (startLoc := startLoc) hT
    (M := recM F) (by omega) (fun _ => by omega) input hin haf).ex (Nat.le_refl _)
  exact ⟨n, c, r, hn, hrun, hr⟩

end LalrpopModel.LR.Term
