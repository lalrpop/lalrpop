import LalrpopModel.Lemmas.TokBasic
/-! Scanning lemmas for string, char and raw string literals. -/
namespace LalrpopModel.Tok

/-- a piece of the body of a `"…"` / `'…'` literal: a plain character or a backslash escape -/
inductive SPiece
  | plain (c : Char)
  | esc (c : Char)
  deriving DecidableEq, Repr

def SPiece.render : SPiece → List Char
  | .plain c => [c]
  | .esc c => ['\\', c]

def SPiece.ok (quote : Char) : SPiece → Bool
  | .plain c => c != quote && c != '\\'
  | .esc _ => true

def renderPieces (ps : List SPiece) : List Char := ps.flatMap SPiece.render

theorem str_scan (q : Char) (hqb : q ≠ '\\') (ps : List SPiece) (hps : ∀ p ∈ ps, p.ok q = true) (pos : Nat) (rest : List Char) :
    takeUntilS (strTerminate q) false pos (renderPieces ps ++ q :: rest) =
      (true, renderPieces ps, ⟨pos + utf8Len (renderPieces ps), q :: rest⟩) := by
  induction ps generalizing pos with
  | nil => simp [renderPieces, takeUntilS, strTerminate, hqb]
  | cons p ps ih =>
    have hp := hps p (by simp)
    have ih' := fun pos => ih (fun x hx => hps x (by simp [hx])) pos
    cases p with
    | plain c =>
      simp [SPiece.ok] at hp
      have h := ih' (pos + c.utf8Size)
      simp [renderPieces] at h ⊢
      simp [SPiece.render, takeUntilS, strTerminate, hp, h, Nat.add_assoc]
    | esc c =>
      have h := ih' (pos + ('\\'.utf8Size + c.utf8Size))
      simp [renderPieces, Nat.add_assoc] at h ⊢
      simp [SPiece.render, takeUntilS, strTerminate, h, Nat.add_assoc]

theorem stringOrCharLiteral_scan (idx0 : Nat) (q : Char) (hqb : q ≠ '\\') (hq : q.utf8Size = 1) (v : List Char → Tok) (ps : List SPiece)
    (hps : ∀ p ∈ ps, p.ok q = true) (pos : Nat) (rest : List Char) :
    stringOrCharLiteral idx0 q v ⟨pos, renderPieces ps ++ q :: rest⟩ =
      some ((idx0, v (renderPieces ps), pos + utf8Len (renderPieces ps) + 1),
            ⟨pos + utf8Len (renderPieces ps) + 1, rest⟩) := by
  simp [stringOrCharLiteral, str_scan q hqb ps hps, St.bump, hq]

theorem stringLiteral_scan (idx0 : Nat) (ps : List SPiece) (hps : ∀ p ∈ ps, p.ok '"' = true) (pos : Nat)
    (rest : List Char) :
    stringLiteral idx0 ⟨pos, renderPieces ps ++ '"' :: rest⟩ =
      .ok ((idx0, .stringLiteral (renderPieces ps), pos + utf8Len (renderPieces ps) + 1),
           ⟨pos + utf8Len (renderPieces ps) + 1, rest⟩) := by
  simp [stringLiteral, stringOrCharLiteral_scan idx0 '"' (by decide) (by decide) _ ps hps]


/-- Rust: a raw string with `n` hashes ends at the first `"` that is followed by `n` hashes, so its
    body contains no `"` followed by `n` hashes. -/
def rawBodyOK (n : Nat) : List Char → Bool
  | [] => true
  | c :: cs => !(c == '"' && (List.replicate n '#').isPrefixOf cs) && rawBodyOK n cs

theorem utf8Len_replicate_hash (n : Nat) : utf8Len (List.replicate n '#') = n := by
  induction n with
  | zero => simp
  | succ n ih =>
    simp [List.replicate_succ, ih]
    omega

/-- the text of a raw string after its `r` starts with `#` or `"`: either way the scanners take the same branch -/
theorem hashes_quote_head (n : Nat) (x : List Char) :
    ∃ d tl, List.replicate n '#' ++ '"' :: x = d :: tl ∧ (d = '#' ∨ d = '"') := by
  cases n with
  | zero => exact ⟨'"', x, rfl, .inr rfl⟩
  | succ m => exact ⟨'#', List.replicate m '#' ++ '"' :: x, rfl, .inl rfl⟩

theorem regexStep_val (h k : Nat) (c : Char) :
    regexStep h k c =
      (if (if k > 0 then (if c == '#' then k + 1 else 0) else k) == 0 && c == '"' then 1
        else (if k > 0 then (if c == '#' then k + 1 else 0) else k),
       (if (if k > 0 then (if c == '#' then k + 1 else 0) else k) == 0 && c == '"' then 1
        else (if k > 0 then (if c == '#' then k + 1 else 0) else k)) == h + 1) := rfl


theorem regexStep_quote (h k : Nat) : regexStep h k '"' = (1, 1 == h + 1) := by
  cases k <;> simp [regexStep]

theorem regexStep_hash (h k : Nat) : regexStep h (k + 1) '#' = (k + 2, k + 2 == h + 1) := by
  simp [regexStep]

theorem regexStep_reset (h k : Nat) (c : Char) (hq : c ≠ '"') (hc : c = '#' → k = 0) :
    regexStep h k c = (0, false) := by
  by_cases h1 : c = '#'
  · simp [regexStep, hc h1, h1]
  · cases k <;> simp [regexStep, hq, h1]

/-- inside the body of a raw string the `end_of_regex` closure never fires: in a state `k ≥ 1` (a quote
    and `k - 1` hashes have just been read) the `t` hashes still missing do not follow -/
theorem regex_body_noStop (n : Nat) : ∀ (xs : List Char) (k : Nat), rawBodyOK n xs = true →
    (k = 0 ∨ ∃ t, k + t = n + 1 ∧ (List.replicate t '#').isPrefixOf xs = false) →
    noStop (regexStep n) k xs := by
  intro xs
  induction xs with
  | nil => intros; trivial
  | cons c cs ih =>
    intro k hok hside
    simp only [rawBodyOK, Bool.and_eq_true, Bool.not_eq_true'] at hok
    obtain ⟨hq, hcs⟩ := hok
    simp only [noStop]
    by_cases hqq : c = '"'
    · -- a quote in the body is not followed by `n` hashes; in particular `n ≠ 0`
      subst hqq
      simp only [beq_self_eq_true, Bool.true_and] at hq
      rw [regexStep_quote]
      refine ⟨?_, ih 1 hcs (.inr ⟨n, Nat.add_comm 1 n, hq⟩)⟩
      cases n with
      | zero => cases hq
      | succ m => rfl
    · by_cases hc : c = '#' ∧ 1 ≤ k
      · -- a hash after a quote: with fewer than two hashes missing, the missing ones would follow
        obtain ⟨rfl, hk1⟩ := hc
        obtain ⟨j, rfl⟩ := Nat.exists_eq_add_of_le' hk1
        obtain ⟨_ | _ | t, ht, hp⟩ := hside.resolve_left (Nat.succ_ne_zero j)
        · cases hp
        · cases hp
        · rw [regexStep_hash]
          exact ⟨beq_false_of_ne (by omega), ih (j + 2) hcs (.inr ⟨t + 1, by omega, hp⟩)⟩
      · rw [regexStep_reset n k c hqq (fun h1 => Nat.eq_zero_of_not_pos fun hk => hc ⟨h1, hk⟩)]
        exact ⟨rfl, ih 0 hcs (.inl rfl)⟩
theorem regex_hashes_run (n : Nat) : ∀ (j k : Nat), k + 1 + j ≤ n →
    noStop (regexStep n) (k + 1) (List.replicate j '#') ∧
      runS (regexStep n) (k + 1) (List.replicate j '#') = k + 1 + j := by
  intro j
  induction j with
  | zero => intro k _; exact ⟨trivial, rfl⟩
  | succ j ih =>
    intro k hle
    have := ih (k + 1) (by omega)
    simp only [List.replicate_succ, noStop, runS, regexStep_hash]
    exact ⟨⟨beq_false_of_ne (by omega), this.1⟩, this.2.trans (Nat.succ_add_eq_add_succ (k + 1) j)⟩

/-- after the opening quote, `take_until(end_of_regex)` consumes the body and all of the closing `"#…#` but its
    last character -/
theorem regex_scan (n : Nat) (body : List Char) (hok : rawBodyOK n body = true) (pos : Nat) (rest : List Char) :
    ∃ pre c, pre ++ [c] = body ++ '"' :: List.replicate n '#' ∧ c.utf8Size = 1 ∧
      pre.take (pre.length - n) = body ∧
      takeUntilS (regexStep n) 0 pos (body ++ '"' :: List.replicate n '#' ++ rest) =
        (true, pre, ⟨pos + utf8Len pre, c :: rest⟩) := by
  have hns := regex_body_noStop n body 0 hok (.inl rfl)
  cases n with
  | zero =>
    refine ⟨body, '"', by simp, by decide, by simp, ?_⟩
    simpa using takeUntilS_stop (regexStep 0) 0 body '"' rest pos hns (by rw [regexStep_quote]; rfl)
  | succ m =>
    -- the quote moves to state 1, the first `m` hashes count up to `m + 1`, the last hash fires
    refine ⟨body ++ '"' :: List.replicate m '#', '#', by simp [List.replicate_succ'], by decide, by simp, ?_⟩
    obtain ⟨hh1, hh2⟩ := regex_hashes_run (m + 1) m 0 (by omega)
    have hns2 : noStop (regexStep (m + 1)) 0 (body ++ '"' :: List.replicate m '#') := by
      rw [noStop_append]
      refine ⟨hns, ?_⟩
      simp only [noStop, regexStep_quote]
      exact ⟨by simp, hh1⟩
    have hrun : runS (regexStep (m + 1)) 0 (body ++ '"' :: List.replicate m '#') = m + 1 := by
      rw [runS_append]
      simp only [runS, regexStep_quote]
      exact hh2.trans (by omega)
    have := takeUntilS_stop (regexStep (m + 1)) 0 (body ++ '"' :: List.replicate m '#') '#' rest pos hns2
      (by rw [hrun, regexStep_hash]; simp)
    simpa [List.replicate_succ'] using this

/-- `regex_literal` entered at `m` hashes followed by a raw string that closes with `h` hashes, where
    `h` is the count the function computes from its `idx0` argument -/
theorem regexLiteral_scan (k : Nat → St → Res St) (idx0 : Nat) (pre : List Char) (p m h : Nat)
    (hh : p + m - idx0 - 1 = h) (body : List Char) (hok : rawBodyOK h body = true) (rest : List Char) :
    regexLiteral k idx0 pre ⟨p, List.replicate m '#' ++ '"' :: (body ++ '"' :: List.replicate h '#' ++ rest)⟩ =
      .ok ((idx0, .regexLiteral body, p + m + 1 + utf8Len body + 1 + h),
           ⟨p + m + 1 + utf8Len body + 1 + h, rest⟩) := by
  have h1 := takeUntil_stop (fun c => !(c == '#')) (List.replicate m '#') '"'
    (body ++ '"' :: List.replicate h '#' ++ rest) p (by intro x hx; simp [List.eq_of_mem_replicate hx]) (by decide)
  obtain ⟨pr, c, hpc, hc1, htake, hscan⟩ := regex_scan h body hok (p + m + 1) rest
  have hlen : utf8Len pr + 1 = utf8Len body + 1 + h := by
    have := congrArg utf8Len hpc
    simp only [utf8Len_append, utf8Len_cons, utf8Len_nil, utf8Len_replicate_hash, hc1, utf8Size_ascii, Char.reduceVal,
      UInt32.reduceLE] at this
    exact this.trans (Nat.add_assoc _ _ _).symm
  simp only [regexLiteral, h1, utf8Len_replicate_hash]
  simp only [beq_self_eq_true, ↓reduceIte, utf8Size_ascii, Char.reduceVal, UInt32.reduceLE, hh]
  rw [hscan]
  simp only [htake, St.bump, hc1]
  rw [Nat.add_assoc (p + m + 1), hlen, ← Nat.add_assoc, ← Nat.add_assoc]

end LalrpopModel.Tok
