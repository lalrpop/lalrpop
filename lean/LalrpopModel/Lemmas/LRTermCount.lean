import LalrpopModel.Lemmas.LRGenericRecovery
import LalrpopModel.Lemmas.LRSoundBasic
/-!
C08, exact step count (arbitrary tables, error recovery off): every machine step before the final
one is one `tokens.next()`, one shift or one reduction, so at every non-final configuration
`n = pulled + acts + |tokens on the stack|` (`count_of_run`), and an accepting run takes exactly
`pulled + acts + |yield of the result| + |tokens left on the stack|` steps (`accept_count`).
Nothing here uses V7 or the other `LRTerm*` files.
-/
namespace LalrpopModel.LR.Term
open LalrpopModel.LR LalrpopModel.LR.Generic

variable {T : Tables} {af : Nat} {failAt : Option Nat} {startLoc : Int}

def CountInv (n : Nat) (c : Cfg) : Phase → Prop
  | .done _ => True
  | .recReduce _ _ _ => False
  | .recFind _ _ _ _ _ => False
  | _ => n = c.pulled + c.acts + (stackYield c.symbols).length

/-- the new symbol of a reduction covers exactly the tokens of the symbols it replaces -/
theorem stackYield_pushCfg (c : Cfg) (p n : Nat) (ls : Option Int) :
    stackYield (pushCfg startLoc c p n ls).symbols = stackYield c.symbols := by
  show stackYield (reduceSym startLoc c p n ls :: c.symbols.drop n) = _
  simp only [stackYield, reduceSym, Tree.yield]
  rw [yield_ofList_reverse, ← stackYield_take_drop]

/-- one more step, counted as a pull, an action or a token on the stack -/
theorem count_succ {n p a l : Nat} (h : n = p + a + l) :
    n + 1 = p + 1 + a + l ∧ n + 1 = p + (a + 1) + l ∧ n + 1 = p + a + (l + 1) := by
  omega

theorem CountInv.step (hrec : T.usesRecovery = false) {n : Nat} {c c' : Cfg} {ph ph' : Phase}
    (h : CountInv n c ph) (hs : Step T af failAt startLoc c ph c' ph') : CountInv (n + 1) c' ph' := by
  cases hs with
  | pull _ nt hn =>
    cases hn with
    | eof _ => exact (count_succ h).1
    | found t i rest _ _ => exact (count_succ h).1
    | _ => trivial
  | shift la idx top rest a target _ _ _ =>
    simp only [CountInv, stackYield, Tree.yield, List.length_append, List.length_cons,
      List.length_nil] at h ⊢
    exact (count_succ h).2.2
  | redCont _ p ls _ hctx hr =>
    cases hr with
    | cont n' A hn hlen hnf hlhs hst below more hd =>
      have hy := stackYield_pushCfg (startLoc := startLoc) c p n' ls
      cases ph with
      | act _ _ | eof =>
        show n + 1 = c.pulled + (c.acts + 1) + (stackYield (pushCfg startLoc c p n' ls).symbols).length
        rw [hy]
        exact (count_succ h).2.1
      | recReduce _ _ _ => exact h.elim
      | _ => exact hctx.elim
  | enterRec _ la fe ex _ _ hr => rw [hrec] at hr; cases hr
  -- the steps of `error_recovery` do not occur
  | toFind la e fe top rest a _ _ _ => exact h.elim
  | push la e dropped sl fe top _ _ _ _ => exact h.elim
  | giveUp e dropped sl fe _ => exact h.elim
  | drop t i e dropped sl fe _ _ nt _ => exact h.elim
  -- the other steps lead to a final phase
  | _ => trivial

theorem count_run (af : Nat) (failAt : Option Nat) (startLoc : Int) (hrec : T.usesRecovery = false)
    (input : List Item) (n : Nat) :
    CountInv n (run T af failAt startLoc n (init startLoc input) .pull).1
      (run T af failAt startLoc n (init startLoc input) .pull).2 := by
  induction n with
  | zero => simp [CountInv, init, stackYield]
  | succ n ih =>
    rw [run_succ']
    exact ih.step hrec (step_spec T af failAt startLoc _ _)

theorem count_of_run (hrec : T.usesRecovery = false) {input : List Item} {n : Nat} {c : Cfg} {ph : Phase}
    (hrun : run T af failAt startLoc n (init startLoc input) .pull = (c, ph)) (hnd : phDone ph = false) :
    n = c.pulled + c.acts + (stackYield c.symbols).length := by
  have h := count_run af failAt startLoc hrec input n
  rw [hrun] at h
  cases ph with
  | done r => cases hnd
  | recReduce _ _ _ => exact h.elim
  | recFind _ _ _ _ _ => exact h.elim
  | _ => exact h

/-- the last step of an accepting run: the start production is reduced, its one symbol leaves the stack -/
theorem accept_step {c1 c : Cfg} {ph1 : Phase} {v : Tree}
    (hs : Step T af failAt startLoc c1 ph1 c (.done (.ok v))) (hnd : phDone ph1 = false) :
    c.pulled = c1.pulled ∧ c.acts = c1.acts + 1 ∧
      (stackYield c1.symbols).length = v.yield.length + (stackYield c.symbols).length := by
  obtain ⟨p, ls, hr⟩ := hs.ok_reduce hnd
  cases hr with
  | accept n' hn hlen hnf hst k hk =>
    refine ⟨rfl, rfl, ?_⟩
    show (stackYield c1.symbols).length = _ + (stackYield (c1.symbols.drop n')).length
    rw [stackYield_take_drop n' c1.symbols, hk]
    simp [stackYield]
    omega

theorem accept_count (hrec : T.usesRecovery = false) {input : List Item} {n : Nat} {c : Cfg} {v : Tree}
    (hrun : run T af failAt startLoc n (init startLoc input) .pull = (c, .done (.ok v))) :
    ∃ k, k + 1 ≤ n ∧
      phDone (run T af failAt startLoc k (init startLoc input) .pull).2 = false ∧
      run T af failAt startLoc (k + 1) (init startLoc input) .pull = (c, .done (.ok v)) ∧
      k + 1 = c.pulled + c.acts + v.yield.length + (stackYield c.symbols).length := by
  obtain ⟨k, c1, ph1, hk, hrun1, hnd, hstep⟩ := last_step T af failAt startLoc hrun rfl
  have hcount := count_of_run hrec hrun1 hnd
  obtain ⟨h1, h2, h3⟩ := accept_step (step_spec_of hstep) hnd
  refine ⟨k, hk, by rw [hrun1]; exact hnd, by rw [run_succ', hrun1]; exact hstep, ?_⟩
  omega

end LalrpopModel.LR.Term
