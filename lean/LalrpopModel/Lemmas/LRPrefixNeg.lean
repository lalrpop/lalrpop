import LalrpopModel.Lemmas.LRPrefixBasic
import LalrpopModel.Lemmas.LRPrefixDet
import LalrpopModel.Lemmas.LRCompleteUnamb
import LalrpopModel.Lemmas.LRGenericExtra
import LalrpopModel.Lemmas.LRGenericErr
/-!
Valid-prefix properties (C04/C05): what completeness and determinism give.

If the tokens pulled so far, followed by some more, are a sentence prefix, they extend to a
sentence, which the driver (validated tables, completeness side) accepts; by `prefix_determinism`
the accepting run begins like the given one (`replay_extension`). Hence the tokens pulled when
`UnrecognizedToken` is reported — the reported one included — are not a prefix of any sentence,
and at a pull `accepts` answers yes for every terminal that continues the consumed input.
-/
namespace LalrpopModel.LR
open LalrpopModel.LR.Generic LalrpopModel.LR.Prefix

section
variable {G : Grammar} {T : Tables} {ann : Ann}

/-- any error outcome on a token list means its kinds are not a sentence (completeness +
    determinism of the machine) -/
theorem err_not_sentence (V : Valid G T ann) {S : NT} (hS : G.startSym = some S) (toks : List Tok)
    (failAt : Option Nat) (hf : NoFail T failAt) (startLoc : Int) {c : Cfg} {e : PErr}
    (h : Returns T failAt startLoc (toks.map Item.tok) c (.err e)) : ¬ KindsSentence G S toks := by
  rintro ⟨w, hw, hd⟩
  obtain ⟨n₁, af, h₁⟩ := h
  obtain ⟨n₂, c₂, v, h₂, _⟩ := derives_ok_run V af failAt hf startLoc S hS w hd toks hw
  cases (run_unique T af failAt startLoc h₁ h₂).2

/-- Replaying a run on an accepted input `I`: up to the configuration reached the accepting run is
    the given one, with `s` and the rest `z` of the sentence still to be read. -/
theorem replay_extension (V : Valid G T ann) (hrec : T.usesRecovery = false) {S : NT}
    (hS : G.startSym = some S) {failAt : Option Nat} (hf : NoFail T failAt) {startLoc : Int}
    {toks : List Tok} {af n : Nat} {c : Cfg} {ph : Phase}
    (hrun : run T af failAt startLoc n (init startLoc (toks.map Item.tok)) .pull = (c, ph))
    (hle : c.pulled ≤ toks.length) {s : List Tok} (hpre : KindsPrefix G S (toks.take c.pulled ++ s)) :
    ∃ (I : List Item) (z : List Term) (n' : Nat) (c' : Cfg) (v : Tree),
      run T af failAt startLoc n (init startLoc I) .pull = (setIn c ((s ++ z.map mkTok).map Item.tok), ph) ∧
      run T af failAt startLoc n' (init startLoc I) .pull = (c', .done (.ok v)) := by
  obtain ⟨u, hu, z, hd⟩ := hpre
  have hk : (toks.take c.pulled ++ s ++ z.map mkTok).map (·.kind) = (u ++ z).map some := by
    rw [List.map_append, hu, map_kind_mkTok, List.map_append]
  obtain ⟨n', c', v, h', _⟩ := derives_ok_run V af failAt hf startLoc S hS (u ++ z) hd _ hk
  have hlen : ((toks.take c.pulled).map Item.tok).length = c.pulled := by
    rw [List.length_map, List.length_take, Nat.min_eq_left hle]
  refine ⟨_, z, n', c', v, ?_, h'⟩
  rw [List.append_assoc, List.map_append]
  refine (prefix_determinism T af failAt startLoc hrec _ _ c.pulled ?_ n c ph hrun (Nat.le_refl _)).trans ?_
  · rw [List.take_left' hlen, List.map_take]
  · rw [List.drop_left' hlen]

/-- without recovery `UnrecognizedToken` names `toks[k]`, the last item pulled -/
theorem token_error_pulled (hrec : T.usesRecovery = false) {toks : List Tok} {failAt : Option Nat}
    {startLoc : Int} {c : Cfg} {tok : Tok} {ex : List Term}
    (h : Returns T failAt startLoc (toks.map Item.tok) c (.err (.unrecognizedToken tok ex))) :
    ∃ k, c.pulled = k + 1 ∧ toks[k]? = some tok := by
  obtain ⟨n, af, h⟩ := h
  obtain ⟨h1, h2⟩ := ((ioinv_of_run (T := T) (startLoc := startLoc) h).fin _ rfl).2 hrec
  obtain ⟨k, hk⟩ := Nat.exists_eq_add_of_le' h1
  rw [hk, Nat.add_sub_cancel, List.getElem?_map, Option.map_eq_some_iff] at h2
  obtain ⟨t, ht, he⟩ := h2
  cases he
  exact ⟨k, hk, ht⟩

theorem err_not_prefix (V : Valid G T ann) (hrec : T.usesRecovery = false) {S : NT} (hS : G.startSym = some S)
    (toks : List Tok) (failAt : Option Nat) (hf : NoFail T failAt) (startLoc : Int) {c : Cfg} {tok : Tok}
    {ex : List Term}
    (h : Returns T failAt startLoc (toks.map Item.tok) c (.err (.unrecognizedToken tok ex))) :
    ¬ KindsPrefix G S (toks.take c.pulled) := by
  intro hpre
  obtain ⟨k, hk, htok⟩ := token_error_pulled hrec h
  have hle : c.pulled ≤ toks.length := hk ▸ (List.getElem?_eq_some_iff.mp htok).1
  obtain ⟨n₁, af, h₁⟩ := h
  rw [← List.append_nil (toks.take c.pulled)] at hpre
  obtain ⟨I, z, n₂, c₂, v, h₃, h₂⟩ := replay_extension V hrec hS hf h₁ hle hpre
  cases (run_unique T af failAt startLoc h₃ h₂).2

/-- **Completeness of `accepts` at a pull.** When the parser (validated tables, completeness
    side; no recovery) is about to pull a token — so its stack is as the last shift left it —
    `accepts` says yes, for some fuel, for every terminal `a` such that the tokens consumed so far
    followed by `a` are a prefix of a sentence. -/
theorem accepts_of_continuation (V : Valid G T ann) (hrec : T.usesRecovery = false) {S : NT}
    (hS : G.startSym = some S) (toks : List Tok) (failAt : Option Nat) (hf : NoFail T failAt)
    (startLoc : Int) {af n : Nat} {c0 : Cfg}
    (hpull : run T af failAt startLoc n (init startLoc (toks.map Item.tok)) .pull = (c0, .pull))
    (a : Term) (hp : KindsPrefix G S (toks.take c0.pulled ++ [mkTok a])) :
    ∃ af', accepts T af' c0.states (some a) = .ok true := by
  have hle : c0.pulled ≤ toks.length := by
    have := (ioinv_of_run (T := T) (startLoc := startLoc) hpull).pre rfl
    rwa [List.length_map] at this
  obtain ⟨I, z, n₃, c₃, v, h₁, h₃⟩ := replay_extension V hrec hS hf hpull hle hp
  -- the accepting run has not finished at step `n`; its next step pulls `a`
  have hn : n + 1 ≤ n₃ := by
    apply Nat.lt_of_not_le
    intro hle'
    have := run_done_stable T af failAt startLoc h₃ hle'
    rw [h₁] at this
    cases this
  obtain ⟨k, rfl⟩ := Nat.exists_eq_add_of_le hn
  rw [Generic.run_add, Generic.run_succ', h₁] at h₃
  exact (act_run_accepts T af failAt startLoc hrec k _ (mkTok a) a _ _ h₃ :)

end

theorem expectedLoop_all_ok {T : Tables} {af : Nat} {st : List Nat} {k i : Nat} {ex : List Term}
    (h : expectedLoop T af st k i = .ok ex) (x : Nat) (h1 : i ≤ x) (h2 : x < i + k) :
    ∃ b, accepts T af st (some x) = .ok b := by
  induction k generalizing i ex with
  | zero => exact absurd h2 (Nat.not_lt.mpr h1)
  | succ k ih =>
    obtain ⟨b, rest, hacc, hrest, -⟩ := expectedLoop_succ_ok h
    rcases Nat.eq_or_lt_of_le h1 with rfl | hlt
    · exact ⟨b, hacc⟩
    · exact ih hrest hlt (by omega)

/-- if `expected` was computed (with whatever fuel) from a state stack for which `accepts` says
    yes for `a` (with whatever fuel), then `a` is listed -/
theorem expected_complete_stack {T : Tables} {states : List Nat} {af af' : Nat} {ex : List Term}
    (hex : expected T af states = .ok ex) {a : Nat} (ha : a < T.nRepr)
    (hacc : accepts T af' states (some a) = .ok true) : a ∈ ex := by
  rw [expectedLoop_mem hex a]
  have ha' : a < 0 + T.nRepr := (Nat.zero_add _).symm ▸ ha
  refine ⟨Nat.zero_le _, ha', ?_⟩
  obtain ⟨b, hb⟩ := expectedLoop_all_ok hex a (Nat.zero_le _) ha'
  have h1 := accepts_ok_mono T hb (Nat.le_max_left af af')
  have h2 := accepts_ok_mono T hacc (Nat.le_max_right af af')
  rw [h1] at h2
  cases h2
  exact hb

theorem checkStartEof_spec {G : Grammar} {T : Tables} (h : checkStartEof G T = true) :
    ∀ a ∈ T.action, a ≠ -((G.startProd : Int) + 1) := by
  intro a ha
  simp only [checkStartEof, List.all_eq_true] at h
  simpa using h a ha

/-- with V6 and the shape facts (`isStart` marks the start production only) the driver never
    returns `ExtraToken` -/
theorem no_extra {G : Grammar} {T : Tables}
    (hstart : ∀ p, T.isStart[p]? = some true → p = G.startProd)
    (h6 : ∀ x ∈ T.action, x ≠ -((G.startProd : Int) + 1)) {failAt : Option Nat} {startLoc : Int}
    {input : List Item} {c : Cfg} {r : Outcome} (h : Returns T failAt startLoc input c r) (la : Tok) :
    r ≠ .err (.extraToken la) := by
  rintro rfl
  obtain ⟨n, af, h⟩ := h
  obtain ⟨k, c1, ph1, hk, hrun, hnd, hstep⟩ := last_step T af failAt startLoc h rfl
  have hio := ioinv_of_run (T := T) (startLoc := startLoc) hrun
  obtain ⟨idx, top, rest, a, p, rfl, h1, h2, h3, h4, h5, h6', h7⟩ := (step_spec_of hstep).extra_cases hio hnd
  cases hstart p h5
  exact h6 a (List.mem_of_getElem? h2) (asReduce_eq_some h4)

end LalrpopModel.LR
