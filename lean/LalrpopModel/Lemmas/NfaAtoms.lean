import LalrpopModel.Lemmas.NfaComb
/-!
The leaves of `Nfa::expr` (a class state with its test edges, a chain of literal symbols) and the `Repetition`
arm, as `Impl` statements.
-/
namespace LalrpopModel.Nfa
open LalrpopModel.Re

theorem stepChar_cls {N : Nfa} {s0 acc rej : Nat} {rs : List (Nat × Nat)}
    (hN : N[s0]? = some { kind := .neither, test := rs.map (fun r => (r.1, r.2, acc)), other := [rej] })
    (c : Nat) :
    (inRanges rs c ∧ stepChar N s0 c = some acc) ∨ (¬ inRanges rs c ∧ stepChar N s0 c = some rej) := by
  unfold stepChar
  rw [testOf_of hN, otherOf_of hN, List.find?_map]
  generalize hf : rs.find? _ = o
  cases o with
  | none =>
    refine .inr ⟨?_, rfl⟩
    rintro ⟨r, hr, h1, h2⟩
    have := List.find?_eq_none.mp hf r hr
    simp [h1, h2] at this
  | some r =>
    have hp := List.find?_some hf
    simp only [Function.comp, Bool.and_eq_true, decide_eq_true_eq] at hp
    exact .inl ⟨⟨r, List.mem_of_find?_eq_some hf, hp⟩, rfl⟩

theorem test_state_spec {N : Nfa} {s0 acc rej : Nat} {rs : List (Nat × Nat)}
    (hN : N[s0]? = some { kind := .neither, test := rs.map (fun r => (r.1, r.2, acc)), other := [rej] })
    (hrej : RejDead N rej) : Spec (fun w => ∃ c, w = [c] ∧ inRanges rs c) N s0 acc := by
  constructor
  · rintro w1 w2 ⟨c, rfl, hc⟩ hacc
    rcases stepChar_cls hN c with ⟨_, hs⟩ | ⟨hno, _⟩
    · exact Acc.chr hs hacc
    · exact absurd hc hno
  · intro k w hr
    obtain ⟨k', c, w', u, rfl, rfl, hstep, hr'⟩ := reach_test_state hN (by simp) rfl hr
    rcases stepChar_cls hN c with ⟨hin, hs⟩ | ⟨_, hs⟩
    · rw [hs] at hstep
      cases hstep
      exact ⟨[c], w', k', Nat.le_succ _, rfl, ⟨c, rfl, hin⟩, hr'⟩
    · rw [hs] at hstep
      cases hstep
      exact absurd hr' (hrej _ _)

theorem foldl_pushTest (rs : List (Nat × Nat)) (n : Nfa) (s0 acc : Nat) :
    rs.foldl (fun n r => pushTest n s0 r.1 r.2 acc) n =
      n.modify s0 fun st => { st with test := st.test ++ rs.map fun r => (r.1, r.2, acc) } := by
  induction rs generalizing n with
  | nil =>
    rw [List.foldl_nil]
    exact (List.modify_id s0 n).symm.trans (congrArg _ (funext fun st => by rw [List.map_nil, List.append_nil]; rfl))
  | cons r rs ih =>
    rw [List.foldl_cons, ih, pushTest, List.modify_modify_eq]
    exact congrArg _ (funext fun st => by
      simp only [Function.comp, List.map_cons, List.append_assoc, List.singleton_append])

theorem clsBuild_impl (rs : List (Nat × Nat)) (rej : Nat) :
    Impl (fun acc n => (pure (clsBuild rs acc rej n) : Build)) rej (fun w => ∃ c, w = [c] ∧ inRanges rs c) := by
  intro acc n s n' he
  simp only [pure, Except.pure, clsBuild, newState_fst, foldl_pushTest, Except.ok.injEq, Prod.mk.injEq] at he
  obtain ⟨rfl, rfl⟩ := he
  refine ⟨?_, fun N hag hrej => ?_⟩
  · refine Frame.pushOther ?_ _ _ (Nat.le_refl _)
    exact (Frame.newState n).modify _ (Nat.le_refl _) _ fun _ => rfl
  · rw [length_pushOther, List.length_modify, length_newState] at hag
    apply test_state_spec (rej := rej) _ hrej
    rw [hag n.length (Nat.le_refl _) (Nat.lt_succ_self _), getElem?_pushOther, if_pos rfl, getElem?_modify',
      if_pos rfl, getElem?_newState_new]
    rfl

theorem litStep_impl (c rej : Nat) :
    Impl (fun acc n => (pure (litStep c acc rej n) : Build)) rej (fun w => w = [c]) := by
  refine (clsBuild_impl [(c, c)] rej).congr fun w => ⟨?_, ?_⟩
  · rintro ⟨c', rfl, r, hr, h1, h2⟩
    rw [List.mem_singleton.mp hr] at h1 h2
    rw [Nat.le_antisymm h2 h1]
  · rintro rfl
    exact ⟨c, rfl, (c, c), List.mem_singleton_self _, Nat.le_refl _, Nat.le_refl _⟩

theorem litChain_impl (cs : List Nat) (rej : Nat) :
    Impl (fun acc n => (pure (litChain cs acc rej n) : Build)) rej (fun w => w = cs.reverse) := by
  induction cs with
  | nil => exact pure_impl rej
  | cons c cs ih =>
    refine (seqB_impl (litStep_impl c rej) ih).congr fun w => ⟨?_, ?_⟩
    · rintro ⟨u, v, rfl, rfl, rfl⟩
      exact List.reverse_cons.symm
    · rintro rfl
      exact ⟨cs.reverse, [c], List.reverse_cons, rfl, rfl⟩

theorem LPow_opt {L : List Nat → Prop} {j : Nat} {w : List Nat} :
    LPow (Lopt L) j w ↔ ∃ i, i ≤ j ∧ LPow L i w := by
  induction j generalizing w with
  | zero =>
    constructor
    · intro h; exact ⟨0, Nat.le_refl _, h⟩
    · rintro ⟨i, hi, h⟩
      have : i = 0 := by omega
      subst this; exact h
  | succ j ih =>
    constructor
    · rintro ⟨u, v, rfl, hu, hv⟩
      obtain ⟨i, hi, hiv⟩ := ih.mp hv
      rcases hu with rfl | hu
      · exact ⟨i, by omega, by simpa using hiv⟩
      · exact ⟨i + 1, by omega, u, v, rfl, hu, hiv⟩
    · rintro ⟨i, hi, h⟩
      cases i with
      | zero =>
        simp only [LPow] at h; subst h
        exact ⟨[], [], rfl, .inl rfl, ih.mpr ⟨0, Nat.zero_le _, rfl⟩⟩
      | succ i =>
        obtain ⟨u, v, rfl, hu, hv⟩ := h
        exact ⟨u, v, rfl, .inr hu, ih.mpr ⟨i, by omega, hv⟩⟩

/-- the language of `x{min,max}` / `x{min,}` -/
def Lrep (L : List Nat → Prop) (min : Nat) (max : Option Nat) : List Nat → Prop :=
  fun w => ∃ k, min ≤ k ∧ (∀ mx, max = some mx → k ≤ mx) ∧ LPow L k w

theorem repWith_impl {f : Nat → Nfa → Build} {rej : Nat} {L : List Nat → Prop}
    (hf : Impl f rej L) (min : Nat) (max : Option Nat) (hwf : ∀ mx, max = some mx → min ≤ mx) :
    Impl (repWith f min max) rej (Lrep L min max) := by
  unfold repWith
  split
  · -- (0, Some(1))
    refine (optionalWith_impl hf).congr fun w => ⟨?_, ?_⟩
    · rintro (rfl | h)
      · exact ⟨0, Nat.le_refl _, fun _ _ => Nat.zero_le _, rfl⟩
      · exact ⟨1, Nat.zero_le _, fun _ h => Nat.le_of_eq (Option.some.inj h), LPow_one.mpr h⟩
    · rintro ⟨k, _, h2, h3⟩
      have := h2 1 rfl
      have : k = 0 ∨ k = 1 := by omega
      rcases this with rfl | rfl
      · exact .inl h3
      · exact .inr (LPow_one.mp h3)
  · -- (0, None)
    refine (starWith_impl hf).congr fun w => ⟨?_, ?_⟩
    · rintro ⟨j, h⟩; exact ⟨j, Nat.zero_le _, nofun, h⟩
    · rintro ⟨k, _, _, h⟩; exact ⟨k, h⟩
  · -- (1, None)
    refine (plusWith_impl hf).congr fun w => ⟨?_, ?_⟩
    · rintro ⟨j, h⟩; exact ⟨j + 1, Nat.succ_le_succ (Nat.zero_le j), nofun, h⟩
    · rintro ⟨k, hk, _, h⟩
      obtain ⟨j, rfl⟩ : ∃ j, k = j + 1 := ⟨k - 1, by omega⟩
      exact ⟨j, h⟩
  · -- (min, Some(max))
    rename_i _ _ mx _
    split
    · rename_i heq
      subst heq
      refine (repeatWith_impl hf min).congr fun w => ⟨?_, ?_⟩
      · intro h
        exact ⟨min, Nat.le_refl _, fun _ h => Nat.le_of_eq (Option.some.inj h), h⟩
      · rintro ⟨k, h1, h2, h3⟩
        have := h2 min rfl
        have : k = min := by omega
        subst this; exact h3
    · have hle := hwf mx rfl
      refine (seqB_impl (repeatWith_impl (optionalWith_impl hf) (mx - min)) (repeatWith_impl hf min)).congr
        fun w => ⟨?_, ?_⟩
      · rintro ⟨u, v, rfl, hu, hv⟩
        obtain ⟨i, hi, hiv⟩ := LPow_opt.mp hv
        exact ⟨min + i, Nat.le_add_right _ _, (by intro m h; cases h; omega), LPow_add hu hiv⟩
      · rintro ⟨k, h1, h2, h3⟩
        have := h2 mx rfl
        obtain ⟨i, rfl⟩ := Nat.exists_eq_add_of_le h1
        obtain ⟨u, v, rfl, hu, hv⟩ := LPow_split h3
        exact ⟨u, v, rfl, hu, LPow_opt.mpr ⟨i, by omega, hv⟩⟩
  · -- (min, None)
    refine (seqB_impl (starWith_impl hf) (repeatWith_impl hf min)).congr fun w => ⟨?_, ?_⟩
    · rintro ⟨u, v, rfl, hu, ⟨j, hv⟩⟩
      exact ⟨min + j, Nat.le_add_right _ _, nofun, LPow_add hu hv⟩
    · rintro ⟨k, h1, _, h3⟩
      obtain ⟨i, rfl⟩ := Nat.exists_eq_add_of_le h1
      obtain ⟨u, v, rfl, hu, hv⟩ := LPow_split h3
      exact ⟨u, v, rfl, hu, ⟨i, hv⟩⟩

end LalrpopModel.Nfa
