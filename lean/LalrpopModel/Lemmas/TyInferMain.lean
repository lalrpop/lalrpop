import LalrpopModel.Lemmas.TyInfer
/-! `ntType` satisfies `RecOK` by induction on the fuel: one call is a chain of `Step`s (push and body, pop,
`add_type`, tuple validation), each given by the lemma of the function called.  `inferLoop` and the final
re-check (`recheck = true`) are loops around such calls (C19). -/
namespace LalrpopModel.TyInfer

variable {Ty Tpl : Type} [DecidableEq Ty] {env : Env Ty Tpl} {G : Grammar Tpl}

theorem ntType_succ {f : Nat} (ih : RecOK env G (ntType env G f)) {id : String} {s s' : St Ty}
    {r : Except Err Ty} (hr : ntType env G (f + 1) id s = (r, s')) :
    Step env G s s' ∧ ∀ t, r = .ok t → s'.memo.lookup id = some t := by
  rw [ntType] at hr
  split at hr
  · next t hl => cases hr; exact ⟨Step.refl _, fun _ ht => by cases ht; exact hl⟩
  · split at hr
    · cases hr; exact ⟨Step.refl _, nofun⟩
    · next nt hf =>
      split at hr
      · cases hr; exact ⟨Step.refl _, nofun⟩
      · cases find_name hf  -- `id` is `nt.name` from here on
        generalize hb : ntBody env (ntType env G f) nt { s with stack := nt.name :: s.stack } = rb at hr
        obtain ⟨res, s1⟩ := rb
        have stepBody := ntBody_step ih hb
        have hstk : s1.stack = nt.name :: s.stack := stepBody.stack
        have stepPop : Step env G s { s1 with stack := s.stack } := stepBody.pop
        -- the body restores the stack, so the pop finds `nt.name` on top
        simp only [hstk, ne_eq, not_true_eq_false, ↓reduceIte] at hr
        cases res with
        | error e => cases hr; exact ⟨stepPop, nofun⟩
        | ok ty =>
          dsimp only at hr
          split at hr
          · cases hr; exact ⟨stepPop, nofun⟩
          · next hl2 =>
            have stepInsert := stepPop.trans (Step.insert (ty := ty) hf hl2 fun h0 hd =>
              ntBody_ok (s' := s1) ih hd hb h0)
            split at hr
            · next hv => cases hr; exact ⟨stepInsert.trans (validateTuples_step ih hv), nofun⟩
            · next hv =>
              cases hr
              have stepTuples := validateTuples_step ih hv
              exact ⟨stepInsert.trans stepTuples, fun _ ht => by
                cases ht; exact stepTuples.ext _ _ List.lookup_cons_self⟩

theorem ntType_recOK : ∀ f, RecOK env G (ntType env G f)
  | 0 => ⟨fun hr => by cases hr; exact Step.refl _, fun hr => by cases hr⟩
  | f + 1 => ⟨fun hr => (ntType_succ (ntType_recOK f) hr).1,
              fun hr => (ntType_succ (ntType_recOK f) hr).2 _ rfl⟩

theorem ntType_hit {fuel : Nat} (hpos : 0 < fuel) (n : String) (s : St Ty) (t : Ty)
    (hl : s.memo.lookup n = some t) : ntType env G fuel n s = (.ok t, s) := by
  obtain ⟨f, rfl⟩ := Nat.exists_eq_add_one_of_ne_zero (Nat.pos_iff_ne_zero.mp hpos)
  rw [ntType, hl]

theorem inferLoop_step {fuel : Nat} {order : List String} {s s' : St Ty} {r : Except Err Unit}
    (hr : inferLoop env G fuel order s = (r, s')) : Step env G s s' := by
  fun_induction inferLoop env G fuel order s generalizing r s' with
  | case1 s => cases hr; exact Step.refl _
  | case2 id rest s e s1 h1 => cases hr; exact (ntType_recOK fuel).step h1
  | case3 id rest s t s1 h1 ih => exact ((ntType_recOK fuel).step h1).trans (ih hr)

theorem inferLoop_ok {fuel : Nat} {order : List String} {s s' : St Ty}
    (hr : inferLoop env G fuel order s = (.ok (), s')) :
    ∀ id ∈ order, ∃ t, s'.memo.lookup id = some t := by
  fun_induction inferLoop env G fuel order s generalizing s' with
  | case1 s => intro id hm; cases hm
  | case2 id rest s e s1 h1 => cases hr
  | case3 id rest s t s1 h1 ih =>
    exact List.forall_mem_cons.mpr
      ⟨⟨t, (inferLoop_step hr).ext _ t ((ntType_recOK fuel).ok h1)⟩, ih hr⟩

theorem inferLoop_fuel_pos {fuel : Nat} {order : List String} {s s' : St Ty}
    (hr : inferLoop env G fuel order s = (.ok (), s')) {id : String} (hin : id ∈ order) :
    0 < fuel := by
  cases order with
  | nil => cases hin
  | cons id' rest =>
    cases fuel with
    | zero => cases hr
    | succ f => exact Nat.succ_pos f

theorem recheckAlts_step {fuel : Nat} {name : String} {ann : Bool} {ty : Ty} {alts : List Alt}
    {i : Nat} {s s' : St Ty} {r : Except Err Unit}
    (hr : recheckAlts env G fuel name ann ty i alts s = (r, s')) : Step env G s s' := by
  fun_induction recheckAlts env G fuel name ann ty i alts s generalizing r s' with
  | case1 i s => cases hr; exact Step.refl _
  | case2 i a as s t s1 h1 hne => cases hr; exact altType_step (ntType_recOK fuel) h1
  | case3 i a as s t s1 h1 hne ih => exact (altType_step (ntType_recOK fuel) h1).trans (ih hr)
  | case4 i a as s e s1 h1 ih => exact (altType_step (ntType_recOK fuel) h1).trans (ih hr)

/-- `M` stays fixed while the table grows along the loop -/
theorem recheckAlts_spec {fuel : Nat} (hpos : 0 < fuel) {name : String} {ty : Ty} {alts : List Alt}
    {i : Nat} {s s' : St Ty} {M : List (String × Ty)} (hM : Ext M s.memo)
    (hr : recheckAlts env G fuel name false ty i alts s = (.ok (), s')) :
    ∀ alt ∈ alts, ∀ t, altTyP env M alt = .ok t → t = ty := by
  fun_induction recheckAlts env G fuel name false ty i alts s generalizing s' with
  | case1 i s => intro alt hm; cases hm
  | case2 i a as s t s1 h1 hne => cases hr
  | case3 i a as s t1 s1 h1 hne ih =>
    refine List.forall_mem_cons.mpr
      ⟨fun t ht => ?_, ih (hM.trans (altType_step (ntType_recOK fuel) h1).ext) hr⟩
    -- the table answers: the re-check computed the specification's type and compared it
    rw [altType_hit (ntType_hit hpos) (altTyP_mono hM ht)] at h1
    cases h1
    exact Decidable.byContradiction fun e => hne (by simp [e])
  | case4 i a as s e s1 h1 ih =>
    refine List.forall_mem_cons.mpr
      ⟨fun t ht => ?_, ih (hM.trans (altType_step (ntType_recOK fuel) h1).ext) hr⟩
    rw [altType_hit (ntType_hit hpos) (altTyP_mono hM ht)] at h1
    cases h1

theorem recheckLoop_step {fuel : Nat} {order : List String} {s s' : St Ty} {r : Except Err Unit}
    (hr : recheckLoop env G fuel order s = (r, s')) : Step env G s s' := by
  fun_induction recheckLoop env G fuel order s generalizing r s' with
  | case1 s => cases hr; exact Step.refl _
  | case2 id rest s nt ty hl hf e s1 h1 => cases hr; exact recheckAlts_step h1
  | case3 id rest s nt ty hl hf s1 h1 ih => exact (recheckAlts_step h1).trans (ih hr)
  | case4 id rest s hno => cases hr; exact Step.refl _

theorem recheckLoop_spec {fuel : Nat} (hpos : 0 < fuel) {order : List String} {s s' : St Ty}
    {M : List (String × Ty)} (hM : Ext M s.memo)
    (hr : recheckLoop env G fuel order s = (.ok (), s')) :
    ∀ id ∈ order, ∀ nt, G.find id = some nt → nt.decl = none → ∀ ty, M.lookup id = some ty →
      ∀ alt ∈ nt.alts, ∀ t, altTyP env M alt = .ok t → t = ty := by
  fun_induction recheckLoop env G fuel order s generalizing s' with
  | case1 s => intro id hm; cases hm
  | case2 id rest s nt0 ty0 hl0 hf0 e s1 h1 => cases hr
  | case4 id rest s hno => cases hr
  | case3 id rest s nt0 ty0 hl0 hf0 s1 h1 ih =>
    refine List.forall_mem_cons.mpr
      ⟨fun nt hf hd ty hl => ?_, ih (hM.trans (recheckAlts_step h1).ext) hr⟩
    rw [hf0] at hf
    cases hf
    rw [hM id ty hl] at hl0
    cases hl0
    rw [hd] at h1
    exact recheckAlts_spec hpos hM h1

end LalrpopModel.TyInfer
