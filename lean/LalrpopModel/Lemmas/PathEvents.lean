import LalrpopModel.Lemmas.PathOrder
/-! What `process_file` and `process_dir` print and return, as event lists. -/

namespace LalrpopModel.PathM

variable {v : Variant}

theorem mem_filesOf (items : List Item) (p : PathC) : p ∈ filesOf items ↔ Item.file p ∈ items := by
  rw [filesOf, List.mem_filterMap]
  constructor
  · rintro ⟨it, hit, hp⟩
    cases it with
    | file q => cases hp; exact hit
    | fatal q => cases hp
  · exact fun h => ⟨_, h, rfl⟩

theorem lalrpopFiles_eq_some {root : PathC} {t : Node} {fs : List PathC}
    (h : lalrpopFiles root t = some fs) :
    fs = (filesOf (walk root (sortTree t))).filter hasLalrpopExt := by
  rw [lalrpopFiles, Option.ite_none_left_eq_some] at h
  rw [← Option.some.inj h.2, filesOf, List.filter_filterMap]
  congr 1
  funext it
  cases it <;> rfl

theorem flatMap_ite_singleton {α : Type} (c : Bool) (l : List α) :
    (l.flatMap fun x => if c then [x] else []) = if c then l else [] := by
  cases c <;> simp

/-- the `cargo:rerun-if-changed` line of `process_file`, printed once both output paths are resolved -/
def rerunEv (s : Session) (f : PathC) : List Event := if s.emitRerun then [.rerun f] else []

/-- what one `process_file` call can do: fail to resolve a path (nothing printed); generate; fail
    to build, having removed the old output or not -/
theorem processFile_events (s : Session) (good : PathC → Bool) (f : PathC) :
    (∃ e, processFile v s good f = ([], .resolveErr e)) ∨
    (∃ rs, processFile v s good f = (rerunEv s f ++ [.generate f rs], .ok)) ∨
    (∃ tail, processFile v s good f = (rerunEv s f ++ tail, .buildErr f) ∧
      (tail = [] ∨ ∃ rs, tail = [.removed rs])) := by
  unfold processFile
  cases genResolve v s.outDir s.inDir f RS with
  | error e => exact .inl ⟨e, rfl⟩
  | ok rs =>
    cases genResolve v s.outDir s.inDir f REPORT with
    | error e => exact .inl ⟨e, rfl⟩
    | ok _ =>
      dsimp only
      rw [← rerunEv.eq_1 s f]
      have hnil : (rerunEv s f, Outcome.buildErr f) = (rerunEv s f ++ [], Outcome.buildErr f) := by
        rw [List.append_nil]
      refine .inr ?_
      by_cases h1 : (fileName rs).isNone = true
      · rw [if_pos h1]; exact .inr ⟨[], hnil, .inl rfl⟩
      · rw [if_neg h1]
        by_cases h2 : good f = true
        · rw [if_pos h2]; exact .inl ⟨rs, rfl⟩
        · rw [if_neg h2]
          by_cases h3 : s.unreadable.contains f = true
          · rw [if_pos h3]; exact .inr ⟨[], hnil, .inl rfl⟩
          · rw [if_neg h3]; exact .inr ⟨_, rfl, .inr ⟨rs, rfl⟩⟩

theorem processFile_no_conflict (s : Session) (good : PathC → Bool) (f : PathC) :
    (processFile v s good f).2 ≠ .inDirConflict := by
  rcases processFile_events (v := v) s good f with ⟨e, h⟩ | ⟨rs, h⟩ | ⟨tail, h, _⟩ <;>
    rw [h] <;> exact Outcome.noConfusion

/-- `process_dir` goes on to the next file exactly when the current one succeeds -/
theorem processFiles_cons (s : Session) (good : PathC → Bool) (f : PathC) (fs : List PathC) :
    processFiles v s good (f :: fs) =
      if (processFile v s good f).2 = .ok then
        ((processFile v s good f).1 ++ (processFiles v s good fs).1, (processFiles v s good fs).2)
      else processFile v s good f := by
  rw [processFiles]
  rcases processFile v s good f with ⟨ev, o⟩
  cases o <;> rfl

/-- the induction over `process_dir`'s loop, once for every additive view `obs` of the event list
    (`rerunsOf`, `generatedOf`) -/
theorem processFiles_obs (s : Session) (good : PathC → Bool) (obs : List Event → List PathC)
    (g : PathC → List PathC) (hnil : obs [] = []) (happ : ∀ a b, obs (a ++ b) = obs a ++ obs b)
    (h : ∀ f, obs (processFile v s good f).1 <+: g f ∧
      ((processFile v s good f).2 = .ok → obs (processFile v s good f).1 = g f)) (fs : List PathC) :
    obs (processFiles v s good fs).1 <+: fs.flatMap g ∧
    ((processFiles v s good fs).2 = .ok → obs (processFiles v s good fs).1 = fs.flatMap g) := by
  induction fs with
  | nil => exact ⟨by rw [processFiles, hnil]; exact List.nil_prefix, fun _ => hnil⟩
  | cons f fs ih =>
    rw [processFiles_cons, List.flatMap_cons]
    split
    · rename_i hok
      rw [happ, (h f).2 hok]
      exact ⟨(List.prefix_append_right_inj _).mpr ih.1, fun h' => by rw [ih.2 h']⟩
    · rename_i hne
      exact ⟨(h f).1.trans (List.prefix_append _ _), fun h' => absurd h' hne⟩

theorem processFiles_no_conflict (s : Session) (good : PathC → Bool) (fs : List PathC) :
    (processFiles v s good fs).2 ≠ .inDirConflict := by
  induction fs with
  | nil => exact Outcome.noConfusion
  | cons f fs ih =>
    rw [processFiles_cons]
    split
    · exact ih
    · exact processFile_no_conflict s good f

theorem inDirConflict_iff (s : Session) (d : Option PathC) :
    inDirConflict s d = true ↔ ∃ q, s.inDir = some q ∧ some q ≠ d := by
  unfold inDirConflict
  cases s.inDir with
  | none => exact iff_of_false nofun nofun
  | some q => simp

end LalrpopModel.PathM
