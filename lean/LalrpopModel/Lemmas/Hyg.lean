import LalrpopModel.Model.Hyg
/-! Lemmas about substring search and the prefix loop: `isPrefix` and `contains` decide the list
relations `<+:` and `<:+:`, whose lemmas then do the work. -/
namespace LalrpopModel.Hyg

theorem isPrefix_iff (p s : List Char) : isPrefix p s = true ↔ p <+: s := by
  induction p generalizing s with
  | nil => simp [isPrefix]
  | cons a as ih =>
    cases s with
    | nil => simp [isPrefix]
    | cons b bs => simp [isPrefix, ih, List.cons_prefix_cons]

theorem contains_iff (s p : List Char) : contains s p = true ↔ p <:+: s := by
  induction s with
  | nil => simp [contains, isPrefix_iff]
  | cons c cs ih => simp [contains, isPrefix_iff, ih, List.infix_cons_iff]

theorem contains_length (s p : List Char) (h : contains s p = true) : p.length ≤ s.length :=
  ((contains_iff s p).1 h).length_le

theorem contains_trans (s t p : List Char) (h1 : contains s t = true) (h2 : contains t p = true) :
    contains s p = true :=
  (contains_iff s p).2 (((contains_iff t p).1 h2).trans ((contains_iff s t).1 h1))

theorem contains_append_left (p s : List Char) : contains (p ++ s) p = true :=
  (contains_iff _ _).2 (List.prefix_append p s).isInfix

/-- the loop stops at a prefix that does not occur: a longer one than the input cannot, and the fuel
    lasts until then -/
theorem growPrefix_fresh (fuel : Nat) (input p : List Char) (h : input.length < fuel + p.length) :
    contains input (growPrefix fuel input p) = false := by
  induction fuel generalizing p with
  | zero =>
    refine Bool.eq_false_iff.mpr fun hc => ?_
    have := contains_length input p hc
    omega
  | succ fuel ih =>
    simp only [growPrefix]
    split
    · exact ih (p ++ ['_']) (by rw [List.length_append, List.length_singleton]; omega)
    · rename_i hc
      exact Bool.eq_false_iff.mpr hc

theorem growPrefix_shape (fuel : Nat) (input p : List Char) :
    ∃ k, growPrefix fuel input p = p ++ List.replicate k '_' := by
  induction fuel generalizing p with
  | zero => exact ⟨0, (List.append_nil p).symm⟩
  | succ fuel ih =>
    simp only [growPrefix]
    split
    · obtain ⟨k, hk⟩ := ih (p ++ ['_'])
      exact ⟨k + 1, by rw [hk, List.append_assoc]; rfl⟩
    · exact ⟨0, (List.append_nil p).symm⟩

end LalrpopModel.Hyg
