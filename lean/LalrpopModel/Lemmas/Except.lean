namespace LalrpopModel

theorem bind_eq_ok {ε α β : Type} {x : Except ε α} {f : α → Except ε β} {b : β} (h : x >>= f = .ok b) :
    ∃ a, x = .ok a ∧ f a = .ok b := by
  cases x with
  | error e => cases h
  | ok a => exact ⟨a, rfl, h⟩

theorem isOk_eq_true_iff {ε α : Type} {x : Except ε α} : x.isOk = true ↔ ∃ a, x = .ok a := by
  cases x with
  | error e => exact ⟨nofun, nofun⟩
  | ok a => exact ⟨fun _ => ⟨a, rfl⟩, fun _ => rfl⟩

theorem isOk_eq_false_iff {ε α : Type} {x : Except ε α} : x.isOk = false ↔ ∃ e, x = .error e := by
  cases x with
  | error e => exact ⟨fun _ => ⟨e, rfl⟩, fun _ => rfl⟩
  | ok a => exact ⟨nofun, nofun⟩

theorem isOk_bind {ε α β : Type} {x : Except ε α} {k : α → Except ε β} {c : Bool} (hk : ∀ a, (k a).isOk = c) :
    (x >>= k).isOk = (x.isOk && c) := by
  cases x with
  | error e => rfl
  | ok a => exact hk a

theorem isOk_bind_ok {ε α β : Type} {x : Except ε α} {k : α → Except ε β} (hk : ∀ a, (k a).isOk = true) :
    (x >>= k).isOk = x.isOk :=
  (isOk_bind hk).trans (Bool.and_true _)

end LalrpopModel
