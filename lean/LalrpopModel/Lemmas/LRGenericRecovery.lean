import LalrpopModel.Lemmas.LRGenericIO
/-!
C16 for arbitrary tables: token accounting of the driver with error recovery. No ghost state is
added to the model; everything is read off the trees on the symbol stack.

The accounting invariants all have one shape (`Acct`): the tokens pulled so far are some `pre`
followed by the tokens the phase still holds, and a relation `R` ties the symbol stack to `pre`.
`Acct.step` does the stream side once; a relation only has to say what a shift, a reduce and the
push of an error symbol do to it.
-/
namespace LalrpopModel.LR.Generic
open LalrpopModel.LR
variable {T : Tables} {af : Nat} {failAt : Option Nat} {startLoc : Int}

section collect
variable {α : Type} (fl : Tok → List α) (fe : PErr → List Tok → List α)

mutual
/-- left-to-right fold over the leaves and error nodes of a tree -/
def Tree.collect : Tree → List α
  | .leaf a => fl a
  | .node _ _ _ ks => Forest.collect ks
  | .err e d => fe e d
def Forest.collect : Forest → List α
  | .nil => []
  | .cons t ts => Tree.collect t ++ Forest.collect ts
end

/-- the same fold over a symbol stack (top first), bottom symbol first -/
def stackCollect : List SymTriple → List α
  | [] => []
  | s :: rest => stackCollect rest ++ Tree.collect fl fe s.2.1

theorem Forest.collect_ofList (l : List Tree) :
    Forest.collect fl fe (Forest.ofList l) = (l.map (Tree.collect fl fe)).flatten := by
  induction l with
  | nil => simp [Forest.ofList, Forest.collect]
  | cons t l ih => simp [Forest.ofList, Forest.collect, ih]

theorem stackCollect_append (a b : List SymTriple) :
    stackCollect fl fe (a ++ b) = stackCollect fl fe b ++ stackCollect fl fe a := by
  induction a with
  | nil => simp [stackCollect]
  | cons s a ih => simp [stackCollect, ih]

theorem stackCollect_eq (l : List SymTriple) :
    stackCollect fl fe l = (l.reverse.map (fun s => Tree.collect fl fe s.2.1)).flatten := by
  induction l with
  | nil => simp [stackCollect]
  | cons s l ih => simp [stackCollect, ih]

theorem stackCollect_take_drop (n : Nat) (l : List SymTriple) :
    stackCollect fl fe l = stackCollect fl fe (l.drop n) ++ stackCollect fl fe (l.take n) := by
  conv => lhs; rw [← List.take_append_drop n l]
  rw [stackCollect_append]

theorem collect_reduceSym (c : Cfg) (p n : Nat) (ls : Option Int) :
    Tree.collect fl fe (reduceSym startLoc c p n ls).2.1 = stackCollect fl fe (c.symbols.take n) := by
  simp only [reduceSym, Tree.collect]
  rw [Forest.collect_ofList, stackCollect_eq]
  simp only [List.map_map, List.map_reverse]
  rfl

/-- `__reduce` keeps the fold of the stack: the new node covers exactly the popped symbols -/
theorem stackCollect_reduce (c : Cfg) (p n : Nat) (ls : Option Int) :
    stackCollect fl fe (reduceSym startLoc c p n ls :: c.symbols.drop n) = stackCollect fl fe c.symbols := by
  rw [stackCollect_take_drop fl fe n c.symbols, stackCollect, collect_reduceSym]

theorem stackCollect_mem {s : SymTriple} {l : List SymTriple} (h : s ∈ l) (x : α)
    (hx : x ∈ Tree.collect fl fe s.2.1) : x ∈ stackCollect fl fe l := by
  induction l with
  | nil => cases h
  | cons s' l ih =>
    simp only [stackCollect, List.mem_append]
    rcases List.mem_cons.mp h with rfl | h
    · exact .inr hx
    · exact .inl (ih h)

theorem stackCollect_drop_prefix (k : Nat) (l : List SymTriple) :
    stackCollect fl fe (l.drop k) <+: stackCollect fl fe l := by
  rw [stackCollect_take_drop fl fe k l]
  exact List.prefix_append _ _

end collect

/-- tokens accounted for by a tree: its leaves, and for an error node its `dropped_tokens` -/
def Tree.covered : Tree → List Tok := Tree.collect (fun a => [a]) (fun _ d => d)
def Forest.covered : Forest → List Tok := Forest.collect (fun a => [a]) (fun _ d => d)
/-- the error nodes of a tree, left to right -/
def Tree.errs : Tree → List (PErr × List Tok) := Tree.collect (fun _ => []) (fun e d => [(e, d)])
def Forest.errs : Forest → List (PErr × List Tok) := Forest.collect (fun _ => []) (fun e d => [(e, d)])

def stackCovered : List SymTriple → List Tok := stackCollect (fun a => [a]) (fun _ d => d)
def stackErrs : List SymTriple → List (PErr × List Tok) := stackCollect (fun _ => []) (fun e d => [(e, d)])

@[simp] theorem Tree.covered_leaf (a : Tok) : Tree.covered (.leaf a) = [a] := rfl
@[simp] theorem Tree.covered_node (p : Nat) (l r : Int) (ks : Forest) :
    Tree.covered (.node p l r ks) = Forest.covered ks := rfl
@[simp] theorem Tree.covered_err (e : PErr) (d : List Tok) : Tree.covered (.err e d) = d := rfl
@[simp] theorem Forest.covered_nil : Forest.covered .nil = [] := rfl
@[simp] theorem Forest.covered_cons (t : Tree) (ts : Forest) :
    Forest.covered (.cons t ts) = Tree.covered t ++ Forest.covered ts := rfl

@[simp] theorem Tree.errs_leaf (a : Tok) : Tree.errs (.leaf a) = [] := rfl
@[simp] theorem Tree.errs_node (p : Nat) (l r : Int) (ks : Forest) :
    Tree.errs (.node p l r ks) = Forest.errs ks := rfl
@[simp] theorem Tree.errs_err (e : PErr) (d : List Tok) : Tree.errs (.err e d) = [(e, d)] := rfl
@[simp] theorem Forest.errs_nil : Forest.errs .nil = [] := rfl
@[simp] theorem Forest.errs_cons (t : Tree) (ts : Forest) :
    Forest.errs (.cons t ts) = Tree.errs t ++ Forest.errs ts := rfl

mutual
theorem Tree.yield_sublist_covered : (t : Tree) → List.Sublist t.yield (Tree.covered t)
  | .leaf a => by simp [Tree.yield]
  | .node _ _ _ ks => by simpa [Tree.yield] using Forest.yield_sublist_covered ks
  | .err _ d => by simp [Tree.yield]
theorem Forest.yield_sublist_covered : (f : Forest) → List.Sublist f.yield (Forest.covered f)
  | .nil => by simp [Forest.yield]
  | .cons t ts => by
    simpa [Forest.yield] using List.Sublist.append (Tree.yield_sublist_covered t) (Forest.yield_sublist_covered ts)
end

mutual
theorem Tree.covered_eq_yield : (t : Tree) → Tree.errs t = [] → Tree.covered t = t.yield
  | .leaf a, _ => by simp [Tree.yield]
  | .node _ _ _ ks, h => by simpa [Tree.yield] using Forest.covered_eq_yield ks (by simpa using h)
  | .err _ d, h => by simp at h
theorem Forest.covered_eq_yield : (f : Forest) → Forest.errs f = [] → Forest.covered f = f.yield
  | .nil, _ => by simp [Forest.yield]
  | .cons t ts, h => by
    simp at h
    simp [Forest.yield, Tree.covered_eq_yield t h.1, Forest.covered_eq_yield ts h.2]
end

theorem stackCovered_cons (s : SymTriple) (l : List SymTriple) :
    stackCovered (s :: l) = stackCovered l ++ Tree.covered s.2.1 := rfl

theorem stackErrs_cons (s : SymTriple) (l : List SymTriple) :
    stackErrs (s :: l) = stackErrs l ++ Tree.errs s.2.1 := rfl

theorem stackCovered_eq_yields {syms : List SymTriple} (h : stackErrs syms = []) :
    stackCovered syms = (syms.reverse.map (fun s => s.2.1.yield)).flatten := by
  induction syms with
  | nil => rfl
  | cons s l ih =>
    rw [stackErrs_cons] at h
    obtain ⟨h1, h2⟩ := List.append_eq_nil_iff.mp h
    rw [stackCovered_cons, ih h1, Tree.covered_eq_yield _ h2]
    simp


def laToks : Option (Tok × Term) → List Tok
  | some (t, _) => [t]
  | none => []

/-- tokens pulled but not (yet) on the symbol stack -/
def held : Phase → List Tok
  | .act la _ => [la]
  | .recReduce la _ _ => laToks la
  | .recFind la _ dropped _ _ => dropped ++ laToks la
  | _ => []

theorem EnterCtx.held {c : Cfg} {ph : Phase} {la : Option (Tok × Term)} {fe : Bool}
    (h : EnterCtx T c ph la fe) : phDone ph = false ∧ held ph = laToks la := by
  cases ph with
  | act t idx => obtain ⟨rfl, -⟩ := h; exact ⟨rfl, rfl⟩
  | eof => obtain ⟨rfl, -⟩ := h; exact ⟨rfl, rfl⟩
  | _ => exact h.elim

theorem RedCtx.held_eq {c : Cfg} {ph : Phase} {p : Nat} {ls : Option Int} (h : RedCtx T c ph p ls) :
    phDone ph = false ∧
    ((∃ la, ls = some la.l ∧ held ph = [la]) ∨ (ls = none ∧ held ph = [])) := by
  cases ph with
  | act la idx => exact ⟨rfl, .inl ⟨la, h.1, rfl⟩⟩
  | eof => exact ⟨rfl, .inr ⟨h.1, rfl⟩⟩
  | recReduce la e fe =>
    rcases la with _ | ⟨t, i⟩
    · exact ⟨rfl, .inr ⟨h.1, rfl⟩⟩
    · exact ⟨rfl, .inl ⟨t, h.1, rfl⟩⟩
  | _ => exact h.elim

theorem held_afterPh {la : Option (Tok × Term)} {fe : Bool} (h : phDone (afterPh la fe) = false) :
    held (afterPh la fe) = laToks la := by
  rcases la with _ | ⟨t, i⟩
  · cases fe <;> rfl
  · cases fe with
    | false => rfl
    | true => cases h

def errToks : PErr → List Tok
  | .unrecognizedToken t _ => [t]
  | _ => []

theorem errToks_mkErr (c : Cfg) (la : Option (Tok × Term)) (ex : List Term) :
    errToks (mkErr c la ex) = laToks la := by
  rcases la with _ | ⟨t, i⟩ <;> rfl

theorem ReduceSpec.fin_ok {c : Cfg} {p : Nat} {ls : Option Int} {c' : Cfg} {v : Tree}
    (h : ReduceSpec T failAt startLoc c p ls (.finished c' (.ok v))) :
    ∃ k rest, c.symbols = k :: rest ∧ v = k.2.1 := by
  cases h with
  | accept n hn hlen hnf hst k hk =>
    refine ⟨k, c.symbols.drop n, ?_, rfl⟩
    conv => lhs; rw [← List.take_append_drop n c.symbols, hk]
    rfl

theorem finOutcome_ok {ph : Phase} {r : Outcome} {v : Tree} (h : finOutcome ph r = .ok v) : r = .ok v := by
  rcases finOutcome_eq_cases ph r with heq | ⟨la, v', heq, -⟩
  · exact heq ▸ h
  · rw [heq] at h; cases h

theorem toksOf_sublist {a b : List Item} (h : a.Sublist b) : (toksOf a).Sublist (toksOf b) := by
  induction h with
  | slnil => exact .slnil
  | @cons _ _ x _ ih => cases x with
    | tok t => exact ih.cons t
    | err e => exact ih
  | @cons_cons _ _ x _ ih => cases x with
    | tok t => exact ih.cons_cons t
    | err e => exact ih

/-- what one `next_token` adds to the tokens pulled -/
theorem next_toks {input : List Item} {c c' : Cfg} {nt : NextToken} (hn : NextSpec T af c c' nt)
    (hinp : c.input = input.drop c.pulled) :
    match nt with
    | .found t _ => toksOf (input.take c'.pulled) = toksOf (input.take c.pulled) ++ [t]
    | .eof => toksOf (input.take c'.pulled) = toksOf (input.take c.pulled)
    | .done (.err (.unrecognizedToken t _)) =>
        toksOf (input.take c'.pulled) = toksOf (input.take c.pulled) ++ [t]
    | .done _ => True := by
  cases hn with
  | eof h =>
    have hl := List.drop_eq_nil_iff.mp (hinp ▸ h)
    show toksOf (input.take (c.pulled + 1)) = _
    rw [List.take_of_length_le (Nat.le_succ_of_le hl), List.take_of_length_le hl]
  | err e rest h => trivial
  | found t i rest h hk | unrec t rest h hk ex hex =>
    show toksOf (input.take (c.pulled + 1)) = _
    rw [(drop_cons_facts (hinp ▸ h)).2.1, toksOf_append]; rfl
  | panic t rest h hk tag => trivial

theorem Step.ok_reduce {c c' : Cfg} {ph : Phase} {v : Tree}
    (hs : Step T af failAt startLoc c ph c' (.done (.ok v))) (hnd : phDone ph = false) :
    ∃ p ls, ReduceSpec T failAt startLoc c p ls (.finished c' (.ok v)) := by
  cases hs.done_cases hnd with
  | panic tag hr => cases hr
  | next hn hph => cases hn
  | red p ls r0 hctx hr heq => exact ⟨p, ls, finOutcome_ok heq.symm ▸ hr⟩
  | noRec la fe ex hctx hex hrec hc hr => cases hr
  | giveUp e d sl fe hph hc hr => cases hr

/-- `d` is a contiguous run of tokens of the stream, in stream order -/
def Contig (input : List Item) (d : List Tok) : Prop :=
  ∃ pre post, input = pre ++ d.map Item.tok ++ post

theorem AllTok.eq_map {l : List Item} (h : AllTok l) : l = (toksOf l).map Item.tok := by
  induction l with
  | nil => rfl
  | cons x l ih =>
    obtain ⟨t, rfl⟩ := h x (List.mem_cons_self ..)
    rw [toksOf_tok, List.map_cons, ← ih (fun y hy => h y (List.mem_cons_of_mem _ hy))]

theorem contig_of_pulled {input : List Item} {n : Nat} {pre d rest : List Tok}
    (hall : AllTok (input.take n)) (h : toksOf (input.take n) = pre ++ (d ++ rest)) : Contig input d := by
  refine ⟨pre.map Item.tok, rest.map Item.tok ++ input.drop n, ?_⟩
  conv => lhs; rw [← List.take_append_drop n input, hall.eq_map, h]
  simp

def Acct (R : List SymTriple → List Tok → Prop) (input : List Item) (c : Cfg) (ph : Phase) : Prop :=
  phDone ph = false → ∃ pre, toksOf (input.take c.pulled) = pre ++ held ph ∧ R c.symbols pre

theorem Acct.init {R : List SymTriple → List Tok → Prop} (h : R [] []) (input : List Item) :
    Acct R input (init startLoc input) .pull := fun _ => ⟨[], rfl, h⟩

/-- `J` is whatever else is known of the configuration before the step -/
theorem Acct.step {R : List SymTriple → List Tok → Prop} {J : Cfg → Phase → Prop} {input : List Item}
    {c c' : Cfg} {ph ph' : Phase}
    (hshift : ∀ syms pre (la : Tok), R syms pre → R ((la.l, Tree.leaf la, la.r) :: syms) (pre ++ [la]))
    (hred : ∀ c ph pre p n ls, J c ph → phDone ph = false → n ≤ c.symbols.length → R c.symbols pre →
      R (reduceSym startLoc c p n ls :: c.symbols.drop n) pre)
    (hpush : ∀ c la e d sl fe pre top l r, J c (.recFind la e d sl fe) →
      findState T af (la.map (·.2)) sl c.states sl = .ok (some top) →
      recStart startLoc c d top = .ok l → recEnd c la d sl top l = .ok r →
      toksOf (input.take c.pulled) = pre ++ (d ++ laToks la) → R c.symbols pre →
      R ((l, Tree.err e d, r) :: truncBot c.symbols top) (pre ++ d))
    (hinp : c.input = input.drop c.pulled) (hJ : J c ph) (h : Acct R input c ph)
    (hs : Step T af failAt startLoc c ph c' ph') : Acct R input c' ph' := by
  cases hs with
  | done r => exact h
  | pull _ nt hn =>
    obtain ⟨pre, hpre, hR⟩ := h rfl
    have h1 := hn.frame.2.2.2.1
    have h2 := next_toks hn hinp
    cases nt with
    | found t i => exact fun _ => ⟨pre, by rw [h2, hpre, List.append_assoc]; rfl, h1 ▸ hR⟩
    | eof => exact fun _ => ⟨pre, by rw [h2, hpre]; rfl, h1 ▸ hR⟩
    | done r => exact nofun
  | shift la idx top rest a target hst ha hsh =>
    obtain ⟨pre, hpre, hR⟩ := h rfl
    exact fun _ => ⟨pre ++ [la], hpre.trans (List.append_nil _).symm, hshift _ _ la hR⟩
  | redCont _ p ls _ hctx hr =>
    cases hr with
    | cont n A hn hlen hnf hlhs hst below more hss =>
      intro hnd
      obtain ⟨pre, hpre, hR⟩ := h hnd
      exact ⟨pre, hpre, hred c ph pre p n ls hJ hnd hn hR⟩
  | enterRec _ la fe ex hctx hex hrec =>
    obtain ⟨pre, hpre, hR⟩ := h hctx.held.1
    exact fun _ => ⟨pre, hpre.trans (congrArg (pre ++ ·) hctx.held.2), hR⟩
  | toFind la e fe top rest a hst ha hnr => exact fun _ => h rfl
  | push la e dropped sl fe top hf _ _ hp =>
    cases hp with
    | panic tag => exact nofun
    | ok l r hl hr rs rest hrs a ha es hes =>
      intro hnd
      obtain ⟨pre, hpre, hR⟩ := h rfl
      refine ⟨pre ++ dropped, ?_, hpush c la e dropped sl fe pre top l r hJ hf hl hr hpre hR⟩
      rw [held_afterPh hnd, List.append_assoc]
      exact hpre
  | drop t i e dropped sl fe hf _ nt hn =>
    obtain ⟨pre, hpre, hR⟩ := h rfl
    have h1 := hn.frame.2.2.2.1
    have h2 := next_toks hn hinp
    cases nt with
    | found t' i' => exact fun _ => ⟨pre, by rw [h2, hpre, List.append_assoc]; rfl, h1 ▸ hR⟩
    | eof =>
      exact fun _ => ⟨pre, by rw [h2, hpre]; exact congrArg (pre ++ ·) (List.append_nil _).symm, h1 ▸ hR⟩
    | done r => exact nofun
  | _ => exact nofun

theorem Acct.fin_ok {R : List SymTriple → List Tok → Prop} {input : List Item} {c c' : Cfg} {ph : Phase}
    {v : Tree} (h : Acct R input c ph) (hs : Step T af failAt startLoc c ph c' (.done (.ok v)))
    (hnd : phDone ph = false) :
    ∃ k rest pre, R (k :: rest) pre ∧ v = k.2.1 ∧ pre.Sublist (toksOf input) := by
  obtain ⟨p, ls, hr⟩ := hs.ok_reduce hnd
  obtain ⟨k, rest, hk, hv⟩ := hr.fin_ok
  obtain ⟨pre, hpre, hR⟩ := h hnd
  refine ⟨k, rest, pre, hk ▸ hR, hv, List.Sublist.trans ?_ (toksOf_sublist (List.take_sublist c.pulled input))⟩
  rw [hpre]; exact List.sublist_append_left _ _

/-- outside `error_recovery`, the token an `Unrecognized*` error names is the one item pulled but
    not shifted -/
theorem Acct.fin_unrec {R : List SymTriple → List Tok → Prop} {input : List Item} {c c' : Cfg} {ph : Phase}
    {pe : PErr} (h : Acct R input c ph) (hinp : c.input = input.drop c.pulled)
    (hs : Step T af failAt startLoc c ph c' (.done (.err pe))) (hnd : phDone ph = false)
    (hne : phErr ph = none) (hu : ∀ e, pe ≠ .user e) (hx : ∀ la, pe ≠ .extraToken la) :
    ∃ pre, toksOf (input.take c'.pulled) = pre ++ errToks pe ∧ R c'.symbols pre := by
  cases hs.done_cases hnd with
  | panic tag hr => cases hr
  | next hn hph =>
    rcases hph with rfl | ⟨t, i, e, d, sl, fe, rfl⟩
    · obtain ⟨pre, hpre, hR⟩ := h rfl
      have h2 := next_toks hn hinp
      cases hn with
      | err e rest hi => exact (hu e rfl).elim
      | unrec t rest hi hk ex hex => exact ⟨pre, by rw [h2, hpre, List.append_assoc]; rfl, hR⟩
    · cases hne
  | red p ls r0 hctx hr heq =>
    rcases finOutcome_eq_cases ph r0 with h1 | ⟨la, v, h1, -⟩
    · rw [h1] at heq
      subst heq
      rcases hr.fin_outcome with ⟨tag, ht⟩ | ⟨e, he⟩ | ⟨v, hv⟩
      · cases ht
      · exact (hu e (Outcome.err.inj he)).elim
      · cases hv
    · exact (hx la (Outcome.err.inj (heq.trans h1))).elim
  | noRec la fe ex hctx hex hrec hc hr =>
    cases hr
    subst hc
    obtain ⟨pre, hpre, hR⟩ := h hnd
    exact ⟨pre, by rw [errToks_mkErr, ← hctx.held.2]; exact hpre, hR⟩
  | giveUp e d sl fe hph hc hr =>
    subst hph
    cases hne

def CovRel (input : List Item) (syms : List SymTriple) (pre : List Tok) : Prop :=
  (stackCovered syms).Sublist pre ∧ ∀ e ∈ stackErrs syms, Contig input e.2

theorem cov_of_run {input : List Item} {n : Nat} {c : Cfg} {ph : Phase}
    (h : run T af failAt startLoc n (init startLoc input) .pull = (c, ph)) :
    Acct (CovRel input) input c ph := by
  refine (inv_of_run (Acct (CovRel input) input) (Acct.init ⟨.slnil, fun _ h => nomatch h⟩ input) ?_ h).2
  intro c ph c' ph' hio hacc hs
  refine Acct.step (J := IOInv T startLoc input) ?_ ?_ ?_ hio.inp hio hacc hs
  · intro syms pre la hR
    refine ⟨?_, fun e he => hR.2 e ?_⟩
    · rw [stackCovered_cons, Tree.covered_leaf]; exact hR.1.append (.refl _)
    · rw [stackErrs_cons, Tree.errs_leaf, List.append_nil] at he; exact he
  · intro c ph pre p n ls _ _ _ hR
    exact ⟨by rw [stackCovered, stackCollect_reduce]; exact hR.1,
      by rw [stackErrs, stackCollect_reduce]; exact hR.2⟩
  · intro c la e d sl fe pre top l r hio _ _ _ hpre hR
    refine ⟨?_, fun e' he' => ?_⟩
    · rw [stackCovered_cons, Tree.covered_err]
      exact ((stackCollect_drop_prefix _ _ _ _).sublist.trans hR.1).append (.refl _)
    · rw [stackErrs_cons, Tree.errs_err] at he'
      rcases List.mem_append.mp he' with he' | he'
      · exact hR.2 e' ((stackCollect_drop_prefix _ _ _ _).subset he')
      · exact List.mem_singleton.mp he' ▸ contig_of_pulled (hio.alltok rfl) hpre

/-- the accepted tree: what it covers is a subsequence of the stream, its error nodes hold
    contiguous runs -/
theorem cov_of_returns {input : List Item} {n : Nat} {c : Cfg} {v : Tree}
    (h : run T af failAt startLoc n (init startLoc input) .pull = (c, .done (.ok v))) :
    (Tree.covered v).Sublist (toksOf input) ∧ ∀ e ∈ Tree.errs v, Contig input e.2 := by
  obtain ⟨k, c1, ph1, -, hrun, hnd, hstep⟩ := last_step T af failAt startLoc h rfl
  obtain ⟨s, rest, pre, hR, rfl, hsub⟩ := (cov_of_run hrun).fin_ok (step_spec_of hstep) hnd
  exact ⟨((List.sublist_append_right _ _).trans hR.1).trans hsub,
    fun e he => hR.2 e (List.mem_append_right _ he)⟩

def PlainRel (syms : List SymTriple) (pre : List Tok) : Prop :=
  stackCovered syms = pre ∧ stackErrs syms = []

/-- `error_recovery` proper is entered only through `Step.enterRec` -/
theorem Step.phErr_none {c c' : Cfg} {ph ph' : Phase} (hs : Step T af failAt startLoc c ph c' ph')
    (hne : phErr ph = none) (hnr : ∀ la fe, EnterCtx T c ph la fe → T.usesRecovery = false) :
    phErr ph' = none := by
  cases hs with
  | done r => exact hne
  | redCont _ p ls _ hctx hr => exact hne
  | pull _ nt hn => cases nt <;> rfl
  | enterRec _ la fe ex hctx hex hrec => cases (hnr la fe hctx).symm.trans hrec
  | toFind la e fe top rest a hst ha hnr => cases hne
  | push la e dropped sl fe top hf _ _ hp => cases hne
  | giveUp e dropped sl fe hf => cases hne
  | drop t i e dropped sl fe hf _ nt hn => cases hne
  | _ => rfl

theorem plain_of_run {input : List Item} {n : Nat} {c : Cfg} {ph : Phase}
    (h : run T af failAt startLoc n (init startLoc input) .pull = (c, ph))
    (hno : ∀ k, k < n → ∀ la fe,
      EnterCtx T (run T af failAt startLoc k (init startLoc input) .pull).1
        (run T af failAt startLoc k (init startLoc input) .pull).2 la fe → T.usesRecovery = false) :
    phErr ph = none ∧ Acct PlainRel input c ph := by
  induction n generalizing c ph with
  | zero => cases h; exact ⟨rfl, Acct.init ⟨rfl, rfl⟩ input⟩
  | succ n ih =>
    obtain ⟨hne, hacc⟩ := ih (c := (run T af failAt startLoc n (init startLoc input) .pull).1)
      (ph := (run T af failAt startLoc n (init startLoc input) .pull).2) rfl
      (fun k hk => hno k (Nat.lt_succ_of_lt hk))
    rw [run_succ'] at h
    have hs := step_spec_of h
    refine ⟨hs.phErr_none hne (hno n (Nat.lt_succ_self n)), ?_⟩
    refine Acct.step (J := fun _ ph => phErr ph = none) ?_ ?_ ?_ (ioinv_of_run rfl).inp hne hacc hs
    · intro syms pre la hR
      exact ⟨by rw [stackCovered_cons, Tree.covered_leaf, hR.1],
        by rw [stackErrs_cons, Tree.errs_leaf, hR.2]; rfl⟩
    · intro c ph pre p n ls _ _ _ hR
      exact ⟨by rw [stackCovered, stackCollect_reduce]; exact hR.1,
        by rw [stackErrs, stackCollect_reduce]; exact hR.2⟩
    · intro c la e d sl fe pre top l r hJ
      cases hJ

/-- A run that never entered `error_recovery` and is over: an accepted tree has no error node; an
    `Unrecognized*` error leaves every pulled token but the one it names on the stack. -/
theorem plain_of_returns {input : List Item} {n : Nat} {c : Cfg} {r : Outcome}
    (h : run T af failAt startLoc n (init startLoc input) .pull = (c, .done r))
    (hno : ∀ k, k < n → ∀ la fe,
      EnterCtx T (run T af failAt startLoc k (init startLoc input) .pull).1
        (run T af failAt startLoc k (init startLoc input) .pull).2 la fe → T.usesRecovery = false) :
    (∀ v, r = .ok v → Tree.errs v = []) ∧
    (∀ pe, r = .err pe → (∀ e, pe ≠ .user e) → (∀ la, pe ≠ .extraToken la) →
      (c.symbols.reverse.map (fun s => s.2.1.yield)).flatten ++ errToks pe = toksOf (input.take c.pulled)) := by
  obtain ⟨k, c1, ph1, hk, hrun, hnd, hstep⟩ := last_step T af failAt startLoc h rfl
  obtain ⟨hne, hacc⟩ := plain_of_run hrun (fun j hj => hno j (Nat.lt_trans hj hk))
  have hs := step_spec_of hstep
  constructor
  · rintro v rfl
    obtain ⟨s, rest, pre, hR, rfl, -⟩ := hacc.fin_ok hs hnd
    exact (List.append_eq_nil_iff.mp hR.2).2
  · rintro pe rfl hu hx
    obtain ⟨pre, hpre, hR⟩ := hacc.fin_unrec (ioinv_of_run hrun).inp hs hnd hne hu hx
    rw [← stackCovered_eq_yields hR.2, hR.1]
    exact hpre.symm

end LalrpopModel.LR.Generic
