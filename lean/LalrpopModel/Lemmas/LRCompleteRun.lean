import LalrpopModel.Lemmas.LRCompleteBasic
import LalrpopModel.Lemmas.LRDriver
import LalrpopModel.Lemmas.LRGenericBasic
/-!
LR completeness: the small-step machine of `Model/LR/Driver.lean` seen from the accepting path.
The four kinds of steps a successful parse takes (pull a token, shift, reduce a non-start
production, reduce the start production at EOF) are characterised on "ready" configurations (`Rdy`).
-/
namespace LalrpopModel.LR
open Generic (run_zero run_succ run_add run_done_stable)

/-- the machine is "ready" in front of the tokens `v`: the head of `v` (or EOF) has been pulled -/
def Rdy (c : Cfg) (ph : Phase) : List Tok → Prop
  | [] => ph = .eof ∧ c.input = []
  | a :: rest => ∃ k, a.kind = some k ∧ ph = .act a k ∧ c.input = rest.map Item.tok

def Phase.NoFuel (ph : Phase) : Prop := ph ≠ .done (.panic .outOfFuel)

section
variable (T : Tables) (af : Nat) (failAt : Option Nat) (startLoc : Int)

/-- both runs extend to the larger step count -/
theorem run_unique {n m : Nat} {c c1 c2 : Cfg} {ph : Phase} {r1 r2 : Outcome}
    (h1 : run T af failAt startLoc n c ph = (c1, .done r1))
    (h2 : run T af failAt startLoc m c ph = (c2, .done r2)) : c1 = c2 ∧ r1 = r2 := by
  have a := run_done_stable T af failAt startLoc h1 (Nat.le_max_left n m)
  rw [run_done_stable T af failAt startLoc h2 (Nat.le_max_right n m)] at a
  cases a
  exact ⟨rfl, rfl⟩

def Reach (x y : Cfg × Phase) : Prop := ∃ n, run T af failAt startLoc n x.1 x.2 = y

variable {T af failAt startLoc}

theorem Reach.refl (x : Cfg × Phase) : Reach T af failAt startLoc x x := ⟨0, run_zero ..⟩

theorem Reach.trans {x y z : Cfg × Phase} (h1 : Reach T af failAt startLoc x y)
    (h2 : Reach T af failAt startLoc y z) : Reach T af failAt startLoc x z := by
  obtain ⟨n, hn⟩ := h1
  obtain ⟨m, hm⟩ := h2
  exact ⟨n + m, by rw [run_add, hn, hm]⟩

theorem Reach.step {c c' : Cfg} {ph ph' : Phase} (h : step T af failAt startLoc c ph = (c', ph')) :
    Reach T af failAt startLoc (c, ph) (c', ph') :=
  ⟨1, by rw [run_succ, h, run_zero]⟩

end

/-- no action can be made to fail: either no failure is requested or no production is fallible -/
def NoFail (T : Tables) (failAt : Option Nat) : Prop :=
  failAt = none ∨ ∀ b ∈ T.fallible, b = false

theorem NoFail.cond {T : Tables} {failAt : Option Nat} (hf : NoFail T failAt) {p : Nat} {fal : Bool}
    (h : T.fallible[p]? = some fal) (k : Nat) : (fal && failAt == some k) = false := by
  rcases hf with rfl | hf
  · simp
  · simp [hf fal (List.mem_of_getElem? h)]

section
variable (T : Tables) (af : Nat) (failAt : Option Nat) (startLoc : Int)

theorem step_pull_rdy (c : Cfg) (v : List Tok) (hin : c.input = v.map Item.tok) (hv : AllK v) :
    ∃ c' ph', step T af failAt startLoc c .pull = (c', ph') ∧ Rdy c' ph' v ∧
      c'.states = c.states ∧ c'.symbols = c.symbols ∧ c'.pulled = c.pulled + 1 ∧
      c'.trace = c.trace ∧ c'.acts = c.acts := by
  cases v with
  | nil =>
    simp at hin
    refine ⟨{ c with pulled := c.pulled + 1 }, .eof, ?_, ?_⟩
    · simp [step, nextToken, hin]
    · simp [Rdy, hin]
  | cons a rest =>
    obtain ⟨k, hk⟩ := hv a (by simp)
    simp at hin
    refine ⟨{ c with input := rest.map Item.tok, pulled := c.pulled + 1, lastLoc := a.r }, .act a k, ?_, ?_⟩
    · simp [step, nextToken, hin, hk]
    · simp [Rdy, hk]

theorem step_shift (c : Cfg) (ph : Phase) (a : Tok) (v : List Tok) (k : Term) (top : Nat) (sts : List Nat) (act : Int)
    (hr : Rdy c ph (a :: v)) (hk : a.kind = some k) (hst : c.states = top :: sts)
    (hact : T.actionAt top k = some act) (hpos : act > 0) :
    ∃ c', step T af failAt startLoc c ph = (c', .pull) ∧ c'.input = v.map Item.tok ∧
      c'.states = (act - 1).toNat :: c.states ∧ c'.symbols = (a.l, Tree.leaf a, a.r) :: c.symbols ∧
      c'.pulled = c.pulled ∧ c'.trace = c.trace ∧ c'.acts = c.acts := by
  obtain ⟨k', hk', rfl, hin⟩ := hr
  rw [hk] at hk'; cases hk'
  refine ⟨{ c with states := (act - 1).toNat :: c.states, symbols := (a.l, Tree.leaf a, a.r) :: c.symbols }, ?_, ?_⟩
  · simp [step, hst, hact, asShift_pos hpos]
  · simp [hin]

theorem reduce_continue (hf : NoFail T failAt) (c : Cfg) (p n A : Nat) (fal : Bool) (laS : Option Int)
    (h1 : T.prodLen[p]? = some n) (h2 : T.prodLhs[p]? = some A) (h3 : T.isStart[p]? = some false)
    (h4 : T.fallible[p]? = some fal) (hlen : n ≤ c.symbols.length)
    (below : Nat) (more : List Nat) (hst : c.states.drop n = below :: more) :
    ∃ c' l r, reduce T failAt startLoc c p laS = .continue_ c' ∧
      c'.states = T.gotoAt below A :: below :: more ∧
      c'.symbols = (l, Tree.node p l r (Forest.ofList ((c.symbols.take n).reverse.map (·.2.1))), r) :: c.symbols.drop n ∧
      c'.input = c.input ∧ c'.pulled = c.pulled ∧ c'.trace = p :: c.trace ∧ c'.acts = c.acts + 1 := by
  rw [Generic.reduce_of_lookups T failAt startLoc c p laS h1 h2 h3 h4]
  simp only [Generic.reduceWith, Nat.not_lt.mpr hlen, hf.cond h4, Bool.false_eq_true, if_false,
    not_length_lt_of_drop hst, hst]
  exact ⟨_, _, _, rfl, rfl, rfl, rfl, rfl, rfl, rfl⟩

/-- a reduction by a non-start production in a ready configuration -/
theorem step_reduce (hf : NoFail T failAt) (c : Cfg) (ph : Phase) (v : List Tok) (top : Nat) (sts : List Nat)
    (p n A : Nat) (fal : Bool)
    (hr : Rdy c ph v) (hst : c.states = top :: sts)
    (hact : actionFor T top (laOf v) = some (-((p : Int) + 1)))
    (h1 : T.prodLen[p]? = some n) (h2 : T.prodLhs[p]? = some A) (h3 : T.isStart[p]? = some false)
    (h4 : T.fallible[p]? = some fal) (hlen : n ≤ c.symbols.length)
    (below : Nat) (more : List Nat) (hdrop : c.states.drop n = below :: more) :
    ∃ c' l r, step T af failAt startLoc c ph = (c', ph) ∧ Rdy c' ph v ∧
      c'.states = T.gotoAt below A :: below :: more ∧
      c'.symbols = (l, Tree.node p l r (Forest.ofList ((c.symbols.take n).reverse.map (·.2.1))), r) :: c.symbols.drop n ∧
      c'.pulled = c.pulled ∧ c'.trace = p :: c.trace ∧ c'.acts = c.acts + 1 := by
  cases v with
  | nil =>
    obtain ⟨rfl, hin⟩ := hr
    obtain ⟨c', l, r, hred, e1, e2, e3, e4, e5, e6⟩ :=
      reduce_continue T failAt startLoc hf c p n A fal none h1 h2 h3 h4 hlen below more hdrop
    refine ⟨c', l, r, ?_, ⟨rfl, e3.trans hin⟩, e1, e2, e4, e5, e6⟩
    simp only [step, hst, show T.eofActionAt top = _ from hact, asReduce_neg, hred]
  | cons a rest =>
    obtain ⟨k, hk, rfl, hin⟩ := hr
    obtain ⟨c', l, r, hred, e1, e2, e3, e4, e5, e6⟩ :=
      reduce_continue T failAt startLoc hf c p n A fal (some a.l) h1 h2 h3 h4 hlen below more hdrop
    rw [laOf, hk] at hact
    refine ⟨c', l, r, ?_, ⟨k, hk, rfl, e3.trans hin⟩, e1, e2, e4, e5, e6⟩
    simp only [step, hst, show T.actionAt top k = _ from hact, asReduce_neg, asShift_neg, hred]

/-- the accepting step: the start production is reduced at EOF with one symbol on the stack -/
theorem step_accept (hf : NoFail T failAt) (c : Cfg) (top : Nat) (sts : List Nat) (p A : Nat) (fal : Bool) (x : SymTriple)
    (hst : c.states = top :: sts) (hact : T.eofActionAt top = some (-((p : Int) + 1)))
    (h1 : T.prodLen[p]? = some 1) (h2 : T.prodLhs[p]? = some A) (h3 : T.isStart[p]? = some true)
    (h4 : T.fallible[p]? = some fal) (hsym : c.symbols = [x]) :
    ∃ c', step T af failAt startLoc c .eof = (c', .done (.ok x.2.1)) ∧
      c'.pulled = c.pulled ∧ c'.trace = p :: c.trace ∧ c'.acts = c.acts + 1 := by
  have h := Generic.reduce_of_lookups T failAt startLoc c p none h1 h2 h3 h4
  rw [Generic.reduceWith, hsym, List.length_singleton, if_neg (Nat.lt_irrefl 1), hf.cond h4] at h
  refine ⟨Generic.popCfg c p 1, ?_, rfl, rfl, rfl⟩
  simp only [step, hst, hact, asReduce_neg]
  rw [h]
  rfl

end
end LalrpopModel.LR
