import LalrpopModel.Lemmas.LRTermRun
import LalrpopModel.Lemmas.LRGenericFuel
/-!
C08 termination: the phases of the driver, error recovery included. `'find_state` pushes the error
state only on a stack that `accepts` has certified, and such a stack does not run into the error
action under the same lookahead (`cert_not_false`): the parse loop entered after a recovery shifts
the lookahead (or ends), so no two recoveries happen at the same position of the input.
-/
namespace LalrpopModel.LR.Term
open LalrpopModel.LR LalrpopModel.LR.Generic

variable {T : Tables} {F af : Nat} {failAt : Option Nat} {startLoc : Int}

theorem cert_not_false {la : LA} {N : Nat} {st fin : List Nat} (hit : Iter T la N st fin)
    (hfalse : ∀ k, accepts T (k + 1) fin la = .ok false) :
    ∀ af0, accepts T af0 st la ≠ .ok true := by
  intro af0 hacc
  have h1 := accepts_ok_mono T hacc (af' := af0 + 1 + N) (by omega)
  rw [accepts_iter_eq hit, hfalse] at h1
  cases h1

/-- `c'` comes after a reduce loop from `c` that frees `d` stack levels -/
structure AfterLoop (T : Tables) (F : Nat) (c : Cfg) (d : Nat) (c' : Cfg) : Prop where
  input : c'.input = c.input
  adj : Adj T c'.states
  height : c'.states.length + d ≤ c.states.length + F

theorem AfterLoop.pred {c c' : Cfg} {d : Nat} (h : AfterLoop T F c (d + 1) c') : AfterLoop T F c d c' :=
  ⟨h.input, h.adj, Nat.le_of_succ_le h.height⟩

/-- How the phase `ph`, a reduce loop from `c` that frees `d` stack levels and the step after it, ends
    at `(c', ph')`. Where `error_recovery` is entered, `accepts` does not certify `c.states` for the
    lookahead. The phase is charged `d + 1` units of the budget of `Ends`, the height of the stack plus
    a reserve: `done` has them within the budget of `c` (`budget_done`), and `AfterLoop.height` leaves
    `c'` a budget of its own (`budget_step`). -/
inductive PhaseEnd (T : Tables) (F : Nat) (c : Cfg) (d : Nat) (c' : Cfg) : Phase → Phase → Prop
  | done {ph : Phase} {r : Outcome} : r ≠ .panic .outOfFuel → d + 1 ≤ c.states.length + F →
      PhaseEnd T F c d c' ph (.done r)
  | shift {tok : Tok} {idx : Term} : AfterLoop T F c d c' → PhaseEnd T F c d c' (.act tok idx) .pull
  | actRec {tok : Tok} {idx : Term} {pe : PErr} : T.usesRecovery = true → AfterLoop T F c d c' →
      (∀ af, accepts T af c.states (some idx) ≠ .ok true) →
      PhaseEnd T F c d c' (.act tok idx) (.recReduce (some (tok, idx)) pe false)
  | eofRec {pe : PErr} : T.usesRecovery = true → AfterLoop T F c d c' →
      (∀ af, accepts T af c.states none ≠ .ok true) →
      PhaseEnd T F c d c' .eof (.recReduce none pe true)
  | toFind {la : Option (Tok × Term)} {e : PErr} {fe : Bool} {sl : Nat} : AfterLoop T F c d c' →
      PhaseEnd T F c d c' (.recReduce la e fe) (.recFind la e [] sl fe)

theorem phase_units {n N d : Nat} (hn : n ≤ N + 1) (hN : N + 1 ≤ F * (d + 1)) :
    n + 1 ≤ (F + 1) * (d + 1) := by
  rw [Nat.succ_mul]
  omega

variable {ph : Phase} {la : LA}

/-- `hexit` is the step out of the loop, taken at a halting stack one level below what `d` allows.
    The bound on `n`, which counts that step, leaves room within `d + 1` units of `F + 1` steps for
    the step that led to the phase. -/
theorem loop_phase (hT : TermOK T F) (hph : LoopPh T ph la) (hla : LAok T la) (af : Nat)
    (failAt : Option Nat) (startLoc : Int) (c : Cfg) (hadj : Adj T c.states)
    (hexit : ∀ (d : Nat) (cH : Cfg) {n top : Nat} {rest : List Nat} {a : Int},
      d + 1 ≤ c.states.length + F → AfterLoop T F c (d + 1) cH → Iter T la n c.states cH.states →
      cH.states = top :: rest → actionFor T top la = some a → asReduce a = none →
      ∃ c' ph', step T af failAt startLoc cH ph = (c', ph') ∧ PhaseEnd T F c d c' ph ph') :
    ∃ n c' ph' d, run T af failAt startLoc n c ph = (c', ph') ∧ n + 1 ≤ (F + 1) * (d + 1) ∧
      PhaseEnd T F c d c' ph ph' := by
  obtain ⟨N, fin, d, hit, hh, hN, hd⟩ := phase_term hT hla c.states.length c.states (Nat.le_refl _) hadj
  have hd0 : d + 1 ≤ c.states.length + F := by omega
  rcases loop_follow hph af failAt startLoc hit c rfl with
    ⟨n, c', r, hn, hrun, hr⟩ | ⟨cH, hrun, hfin, hin⟩
  · exact ⟨n, c', _, d, hrun, phase_units (Nat.le_succ_of_le hn) hN, .done hr hd0⟩
  · subst hfin
    rcases loop_step hph af failAt startLoc cH with
      ⟨c', r, hst, hr⟩ | ⟨c', _, hl, _⟩ | ⟨_, top, rest, a, hs, ha, hp⟩
    · exact ⟨N + 1, c', _, d, run_snoc hrun hst, phase_units (Nat.le_refl _) hN, .done hr hd0⟩
    · exact (hh _ hl).elim
    · obtain ⟨c', ph', hst, hend⟩ := hexit d cH hd0 ⟨hin, hadj.iter hT hit, hd⟩ hit hs ha hp
      exact ⟨N + 1, c', ph', d, run_snoc hrun hst, phase_units (Nat.le_refl _) hN, hend⟩

theorem act_phase (hT : TermOK T F) (failAt : Option Nat) (startLoc : Int) {idx : Term}
    (hidx : idx < T.nTerm) (tok : Tok) (c : Cfg)
    (hadj : Adj T c.states) (haf : accFuel F (c.states.length + F) ≤ af) :
    ∃ n c' ph' d, run T af failAt startLoc n c (.act tok idx) = (c', ph') ∧
      n + 1 ≤ (F + 1) * (d + 1) ∧ PhaseEnd T F c d c' (.act tok idx) ph' := by
  refine loop_phase hT (.act tok idx) hidx af failAt startLoc c hadj fun d cH _ _ _ _ hd0 hL hit hs ha hp => ?_
  rcases act_exit af failAt startLoc tok hs ha hp with ⟨t, hsh, hst⟩ | ⟨hst, hfalse⟩
  · refine ⟨_, _, hst, .shift ⟨hL.input, hL.adj.push_shift hs hidx ha hsh, ?_⟩⟩
    show (t :: cH.states).length + d ≤ _
    rw [List.length_cons, Nat.add_right_comm]
    exact hL.height
  · rcases enterRecovery_cases hT af cH hL.adj (some (tok, idx)) false with
      ⟨r, her, hr⟩ | ⟨hrec, pe, her⟩
    · exact ⟨_, _, hst.trans her,
        .done (hr (fuel_le haf (Nat.le_trans (Nat.le_add_right _ _) hL.height))) hd0⟩
    · exact ⟨_, _, hst.trans her, .actRec hrec hL.pred (cert_not_false hit hfalse)⟩

theorem eof_phase (hT : TermOK T F) (failAt : Option Nat) (startLoc : Int) (c : Cfg)
    (hadj : Adj T c.states) (haf : accFuel F (c.states.length + F) ≤ af) :
    ∃ n c' ph' d, run T af failAt startLoc n c .eof = (c', ph') ∧ n + 1 ≤ (F + 1) * (d + 1) ∧
      PhaseEnd T F c d c' .eof ph' := by
  refine loop_phase hT .eof trivial af failAt startLoc c hadj fun d cH _ _ _ a hd0 hL hit hs ha hp => ?_
  obtain ⟨hst, hfalse⟩ := eof_exit af failAt startLoc hs ha hp
  rcases enterRecovery_cases hT af cH hL.adj none true with ⟨r, her, hr⟩ | ⟨hrec, pe, her⟩
  · exact ⟨_, _, hst.trans her,
      .done (hr (fuel_le haf (Nat.le_trans (Nat.le_add_right _ _) hL.height))) hd0⟩
  · exact ⟨_, _, hst.trans her, .eofRec hrec hL.pred
      (cert_not_false hit (hfalse (hT.eof_le a (List.mem_of_getElem? ha))))⟩

theorem rec_phase (hT : TermOK T F) (hrec : T.usesRecovery = true) (af : Nat) (failAt : Option Nat)
    (startLoc : Int) (c : Cfg) (hadj : Adj T c.states)
    (la : Option (Tok × Term)) (e : PErr) (fe : Bool) :
    ∃ n c' ph' d, run T af failAt startLoc n c (.recReduce la e fe) = (c', ph') ∧
      n + 1 ≤ (F + 1) * (d + 1) ∧ PhaseEnd T F c d c' (.recReduce la e fe) ph' :=
  loop_phase hT (.recReduce la e fe) (errLA_ok hT hrec) af failAt startLoc c hadj
    fun _ _ _ _ _ _ _ hL _ hs ha hp => ⟨_, _, rec_exit la e fe hs ha hp, .toFind hL.pred⟩

theorem Adj.of_truncBot {states : List Nat} (h : Adj T states) {j st : Nat} {more : List Nat}
    (ht : truncBot states j = st :: more) : Adj T (st :: more) ∧ (st :: more).length ≤ states.length := by
  unfold truncBot at ht
  refine ⟨Adj.drop _ h ht, ?_⟩
  rw [← ht, List.length_drop]
  omega

theorem Adj.push_err (hT : TermOK T F) (hrec : T.usesRecovery = true) {st : Nat} {more : List Nat}
    (h : Adj T (st :: more)) {a : Int} {es : Nat} (ha : T.errorActionAt st = some a)
    (hes : asShift a = some es) : Adj T (es :: st :: more) :=
  h.push_shift rfl (Nat.sub_lt (hT.err_term hrec) Nat.one_pos) ha hes

variable {oi : Option Term} {sl : Nat} {states : List Nat} {k : Nat}

theorem afterPh_eq_act {la : Option (Tok × Term)} {fe : Bool} {t : Tok} {i : Term}
    (h : afterPh la fe = .act t i) : la = some (t, i) := by
  cases la with
  | none => simp [afterPh] at h
  | some ti =>
    cases fe with
    | true => simp [afterPh] at h
    | false =>
      simp only [afterPh, Phase.act.injEq] at h
      rw [← h.1, ← h.2]

/-- what one iteration of `'find_state` under the lookahead `la` leads to -/
inductive FindStep (T : Tables) (F af : Nat) (c : Cfg) (e : PErr) (dropped : List Tok) (sl : Nat) (fe : Bool) :
    Option (Tok × Term) → Cfg × Phase → Prop
  | done {la : Option (Tok × Term)} {c' : Cfg} {r : Outcome} :
      (accFuel F (c.states.length + 1) ≤ af → r ≠ .panic .outOfFuel) →
      FindStep T F af c e dropped sl fe la (c', .done r)
  | push {la : Option (Tok × Term)} {c' : Cfg} {ph' : Phase} : ph' = afterPh la fe → Adj T c'.states →
      c'.states.length ≤ c.states.length + 1 → c'.input = c.input →
      accepts T af c'.states (la.map (·.2)) = .ok true →
      FindStep T F af c e dropped sl fe la (c', ph')
  | drop {t t' : Tok} {i i' : Term} {rest : List Item} : c.input = .tok t' :: rest → t'.kind = some i' →
      FindStep T F af c e dropped sl fe (some (t, i))
        (pullTokCfg c t' rest, .recFind (some (t', i')) e (dropped ++ [t]) sl fe)
  | dropEof {t : Tok} {i : Term} : c.input = [] →
      FindStep T F af c e dropped sl fe (some (t, i))
        ({ c with pulled := c.pulled + 1 }, .recFind none e (dropped ++ [t]) sl fe)

theorem step_find (hT : TermOK T F) (hrec : T.usesRecovery = true) (af : Nat) (failAt : Option Nat)
    (startLoc : Int) (c : Cfg) (hadj : Adj T c.states) (la : Option (Tok × Term))
    (hla : LAok T (la.map (·.2))) (e : PErr) (dropped : List Tok) (sl : Nat) (fe : Bool) :
    FindStep T F af c e dropped sl fe la (step T af failAt startLoc c (.recFind la e dropped sl fe)) := by
  simp only [step]
  cases hf : findState T af (la.map (·.2)) sl c.states sl with
  | error tag =>
    refine .done fun haf h => ?_
    cases h
    -- the candidate stack is `Adj` and at most one state higher than `c.states`
    obtain ⟨j, ⟨-, h⟩ | ⟨st, more, ht, ⟨-, h⟩ | ⟨a, es, ha, hes, hacc⟩⟩⟩ := findState_error hf
    · cases h
    · cases h
    obtain ⟨h1, h2⟩ := hadj.of_truncBot ht
    exact accepts_terminates hT hla (h1.push_err hT hrec ha hes)
      (Nat.le_trans (accFuel_mono (Nat.succ_le_succ h2)) haf) hacc
  | ok o =>
    cases o with
    | some top =>
      obtain ⟨-, st, more, a, es, ht, ha, hes, hacc⟩ := findState_some hf
      obtain ⟨h1, h2⟩ := hadj.of_truncBot ht
      have hp := pushRecovery_spec T startLoc c la e dropped sl top fe
      simp only
      generalize pushRecovery T startLoc c la e dropped sl top fe = x at hp ⊢
      obtain ⟨c', ph'⟩ := x
      cases hp with
      | panic tag htag => exact .done fun _ h => htag (Outcome.panic.inj h)
      | ok l r hl hr rs rest hrs a' ha' es' hes' =>
        -- the lookups of `pushRecovery` are those `findState` has made
        cases ht.symm.trans hrs
        cases ha.symm.trans ha'
        cases hes.symm.trans hes'
        exact .push rfl (ht ▸ h1.push_err hT hrec ha hes) (Nat.succ_le_succ (ht ▸ h2)) rfl (ht ▸ hacc)
    | none =>
      cases la with
      | none => exact .done fun _ => nofun
      | some ti =>
        obtain ⟨t, i⟩ := ti
        rcases nextToken_cases hT af c hadj with ⟨hinp, hnt⟩ | ⟨t', i', rest, hinp, hk, hnt⟩ |
          ⟨c', r, hnt, hr⟩
        · simp only [hnt]
          exact .dropEof hinp
        · simp only [hnt]
          exact .drop hinp hk
        · simp only [hnt]
          exact .done fun haf => hr (Nat.le_trans (accFuel_mono (Nat.le_succ _)) haf)

end LalrpopModel.LR.Term
