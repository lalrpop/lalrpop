import LalrpopModel.Lemmas.InlineStep
/-!
The substitution lemma: one inlining step preserves derivations and values (`step_eval`), for
abstract meanings of the actions. It rests on one fact about a single grammar: evaluating a string
of symbols is choosing an expansion, evaluating that, and composing the inlined actions
(`eval_iff_expansion`). Plain derivations are evaluations with trivial values.
-/
set_option linter.unusedSectionVars false

namespace LalrpopModel.Inline

variable {N T X : Type} [DecidableEq N] [DecidableEq T] {E V : Type}

theorem composeArgs_congr (sem1 sem2 : Sem E V) (c : List (InlinedSymbol N T))
    (h : ∀ act ss, InlinedSymbol.inlined act ss ∈ c → sem1 act = sem2 act) (args : List V) :
    composeArgs sem1 c args = composeArgs sem2 c args := by
  induction c generalizing args with
  | nil => rfl
  | cons s rest ih =>
    have ih' := ih (fun act ss hm => h act ss (List.mem_cons_of_mem _ hm))
    cases s with
    | original sym =>
      cases args with
      | nil => rfl
      | cons a args => rw [composeArgs, composeArgs, ih']
    | inlined act ss =>
      simp only [composeArgs, h act ss (List.mem_cons_self ..), ih']

theorem composeArgs_congr_choices {inl : N} {inlProds : List (Production N T)}
    {syms : List (Symbol N T)} {c : List (InlinedSymbol N T)} (hc : c ∈ choices inl inlProds syms)
    {sem1 sem2 : Sem E V} (h : ∀ ip ∈ inlProds, sem1 ip.action = sem2 ip.action) (args : List V) :
    composeArgs sem1 c args = composeArgs sem2 c args :=
  composeArgs_congr sem1 sem2 c (fun act ss hm => by
    rcases choices_elem hc hm with ⟨_, _, _, e⟩ | ⟨ip, hip, e⟩
    · cases e
    · cases e
      exact h ip hip) args

theorem eval_iff_expansion {G : Grammar N T X} {S : Sem E V} {tv : T → V} {inl : N}
    {inlProds : List (Production N T)} (hin : ∀ q, q ∈ G.productionsFor inl ↔ q ∈ inlProds)
    (syms : List (Symbol N T)) {u : List T} {args : List V} :
    Eval G S tv syms u args ↔ ∃ c ∈ choices inl inlProds syms, ∃ args',
      Eval G S tv (c.flatMap InlinedSymbol.flat) u args' ∧ composeArgs S c args' = .ok args := by
  induction syms generalizing u args with
  | nil =>
    constructor
    · intro h
      cases h
      exact ⟨[], mem_choices_nil.mpr rfl, [], Eval.nil, rfl⟩
    · rintro ⟨c, hc, args', he, hcomp⟩
      cases mem_choices_nil.mp hc
      cases he
      cases hcomp
      exact Eval.nil
  | cons s rest ih =>
    by_cases hs : s = .nt inl
    · subst hs
      constructor
      · intro h
        cases h with
        | nt _ q hq hcq hsq h' =>
          obtain ⟨c, hc, args', he, hcomp⟩ := ih.mp h'
          refine ⟨_, mem_choices_cons_inl.mpr ⟨q, (hin q).mp hq, c, hc, rfl⟩, _, Eval.append hcq he, ?_⟩
          rw [composeArgs, List.take_left' hcq.length_eq, List.drop_left' hcq.length_eq, hsq, hcomp]
          rfl
      · rintro ⟨c, hc, args', he, hcomp⟩
        obtain ⟨ip, hip, c₀, hc₀, rfl⟩ := mem_choices_cons_inl.mp hc
        obtain ⟨w1, w2, vs1, vs2, rfl, rfl, h1, h2⟩ := Eval.split ip.symbols he
        rw [composeArgs, List.take_left' h1.length_eq, List.drop_left' h1.length_eq] at hcomp
        obtain ⟨v, hv, hrest⟩ := Res.bind_eq_ok.mp hcomp
        obtain ⟨args₀, ha₀, rfl⟩ := Res.map_eq_ok.mp hrest
        exact Eval.nt inl ip ((hin ip).mpr hip) h1 hv (ih.mpr ⟨c₀, hc₀, vs2, h2, ha₀⟩)
    · have mem := fun {c} =>
        mem_choices_cons_other (inl := inl) (inlProds := inlProds) (c := c) (rest := rest) hs
      constructor
      · intro h
        obtain ⟨_, _, _, _, rfl, rfl, h', put⟩ := h.uncons
        obtain ⟨c, hc, args', he, hcomp⟩ := ih.mp h'
        exact ⟨_, mem.mpr ⟨c, hc, rfl⟩, _, put he, by rw [composeArgs, hcomp]; rfl⟩
      · rintro ⟨c, hc, args', he, hcomp⟩
        obtain ⟨c₀, hc₀, rfl⟩ := mem.mp hc
        obtain ⟨_, _, _, _, rfl, rfl, h', put⟩ := he.uncons
        rw [composeArgs] at hcomp
        obtain ⟨args₀, ha₀, rfl⟩ := Res.map_eq_ok.mp hcomp
        exact put (ih.mpr ⟨c₀, hc₀, _, h', ha₀⟩)

section step

variable {g g' : Grammar N T X} {inl : N} {n0 : Nat} {sem sem' : Sem E V} {tv : T → V}
  (hrel : ∀ n, StepRel inl (g.productionsFor inl) n0 g'.actions (g.productionsFor n) (g'.productionsFor n))
  (hself : ∀ ip ∈ g.productionsFor inl, Symbol.nt inl ∉ ip.symbols)
  (hold : ∀ n, ∀ p ∈ g.productionsFor n, sem' p.action = sem p.action)
  (hnew : ∀ n, ∀ p ∈ g.productionsFor n, ∀ c ∈ choices inl (g.productionsFor inl) p.symbols,
    ∀ idx args, n0 ≤ idx → IsInlineOf g'.actions idx p.action c →
      args.length = (c.flatMap InlinedSymbol.flat).length →
      sem' idx args = (composeArgs sem c args).bind (sem p.action))

include hrel hself in
theorem inl_prods_same (q : Production N T) :
    q ∈ g'.productionsFor inl ↔ q ∈ g.productionsFor inl := by
  constructor
  · intro hq
    rcases (hrel inl).back q hq with ⟨h, _⟩ | ⟨p, hp, hs, _⟩
    · exact h
    · exact absurd hs (hself p hp)
  · exact fun hq => (hrel inl).keep q hq (hself q hq)

include hrel hself hold hnew in
/-- **the substitution lemma**: the two grammars have the same evaluations -/
theorem step_eval {ss w vs} : Eval g sem tv ss w vs ↔ Eval g' sem' tv ss w vs := by
  constructor
  · intro h
    induction h with
    | nil => exact Eval.nil
    | term t _ ih => exact Eval.term t ih
    | @nt n p u args v ss w vs hp _ hs _ ih1 ih2 =>
      by_cases hin : Symbol.nt inl ∈ p.symbols
      · -- regroup the children (already in the new grammar) into an expansion of `p`
        obtain ⟨c, hc, args', he, hcomp⟩ :=
          (eval_iff_expansion (inl_prods_same hrel hself) p.symbols).mp ih1
        obtain ⟨idx, hidx, hmem, hdef⟩ := (hrel n).new p hp hin c hc
        refine Eval.nt n _ hmem he ?_ ih2
        rw [hnew n p hp c hc idx args' hidx hdef he.length_eq,
          ← composeArgs_congr_choices hc (hold inl), hcomp]
        exact hs
      · exact Eval.nt n p ((hrel n).keep p hp hin) ih1 (by rw [hold n p hp]; exact hs) ih2
  · intro h
    induction h with
    | nil => exact Eval.nil
    | term t _ ih => exact Eval.term t ih
    | @nt n p' u args' v ss w vs hp' hc' hs _ ih1 ih2 =>
      rcases (hrel n).back p' hp' with ⟨hp, _⟩ | ⟨p, hp, _, c, hc, _, hsyms, hidx, hdef⟩
      · exact Eval.nt n p' hp ih1 (by rw [← hold n p' hp]; exact hs) ih2
      · have hlen := hc'.length_eq
        rw [hsyms] at hlen ih1
        rw [hnew n p hp c hc p'.action args' hidx hdef hlen] at hs
        obtain ⟨args, hcomp, hv⟩ := Res.bind_eq_ok.mp hs
        exact Eval.nt n p hp
          ((eval_iff_expansion (fun _ => Iff.rfl) p.symbols).mpr ⟨c, hc, args', ih1, hcomp⟩) hv ih2

end step

def okSem : Sem Empty Unit := fun _ _ => .ok ()

theorem derives_iff_eval (g : Grammar N T X) (ss : List (Symbol N T)) (w : List T) :
    Derives g ss w ↔ ∃ vs, Eval g okSem (fun _ => ()) ss w vs := by
  constructor
  · intro h
    induction h with
    | nil => exact ⟨[], Eval.nil⟩
    | term t _ ih => obtain ⟨vs, h⟩ := ih; exact ⟨_, Eval.term t h⟩
    | nt n p hp _ _ ih1 ih2 =>
      obtain ⟨a, h1⟩ := ih1
      obtain ⟨vs, h2⟩ := ih2
      exact ⟨_, Eval.nt n p hp h1 rfl h2⟩
  · rintro ⟨vs, h⟩
    induction h with
    | nil => exact Derives.nil
    | term t _ ih => exact Derives.term t ih
    | nt n p hp _ _ _ ih1 ih2 => exact Derives.nt n p hp ih1 ih2

theorem composeArgs_okSem (c : List (InlinedSymbol N T)) (args : List Unit)
    (h : args.length = (c.flatMap InlinedSymbol.flat).length) :
    ∃ r, composeArgs okSem c args = .ok r := by
  induction c generalizing args with
  | nil => exact ⟨[], rfl⟩
  | cons s rest ih =>
    rw [List.flatMap_cons, List.length_append] at h
    cases s with
    | original sym =>
      cases args with
      | nil => cases h.trans (Nat.add_comm ..)
      | cons a args =>
        obtain ⟨r, hr⟩ := ih args (Nat.succ.inj (h.trans (Nat.add_comm ..)))
        exact ⟨a :: r, by rw [composeArgs, hr]; rfl⟩
    | inlined act ss =>
      obtain ⟨r, hr⟩ := ih (args.drop ss.length) (by
        rw [List.length_drop, h]
        exact Nat.add_sub_cancel_left ..)
      exact ⟨() :: r, by rw [composeArgs, hr]; rfl⟩

end LalrpopModel.Inline
