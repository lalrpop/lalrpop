import LalrpopModel.Model.Build
/-! Helper lemmas about M-BUILD (file-system frame rules, `splitLine`, crash prefixes). -/

namespace LalrpopModel.Build

@[simp] theorem setFs_same (fs : Path → Option File) (p : Path) (v : Option File) :
    setFs fs p v p = v := by simp [setFs]

theorem setFs_other (fs : Path → Option File) {p q : Path} (v : Option File) (h : q ≠ p) :
    setFs fs p v q = fs q := by simp [setFs, h]

theorem splitLine_prefix (x r : Bytes) (h : NL ∉ x) :
    splitLine (x ++ r) = (x ++ (splitLine r).1, (splitLine r).2) := by
  induction x with
  | nil => rfl
  | cons b x ih =>
    have hb : b ≠ NL := fun e => h (e ▸ List.mem_cons_self)
    simp [splitLine, hb, ih fun e => h (List.mem_cons_of_mem _ e)]

theorem splitLine_line (x r : Bytes) (h : NL ∉ x) :
    splitLine (x ++ NL :: r) = (x ++ [NL], r) := by
  rw [splitLine_prefix x _ h]; simp [splitLine]

theorem splitLine_noNL (x : Bytes) (h : NL ∉ x) : splitLine x = (x, []) := by
  simpa [splitLine] using splitLine_prefix x [] h

theorem splitLine_fst_append_snd (d : Bytes) : (splitLine d).1 ++ (splitLine d).2 = d := by
  induction d with
  | nil => rfl
  | cons b d ih =>
    by_cases hb : b = NL
    · simp [splitLine, hb]
    · simp [splitLine, hb, ih]

/-- the action reads or writes path `q` -/
def touches : FsAct → Path → Prop
  | .remove p, q => q = p
  | .create p, q => q = p
  | .openKeep p, q => q = p
  | .write p _, q => q = p
  | .rename s d, q => q = s ∨ q = d

theorem applyAct_gr (st : St) (a : FsAct) : (applyAct st a).gr = st.gr := by
  cases a with
  | write p bs => simp only [applyAct]; split <;> rfl
  | _ => rfl

theorem applyAct_frame (st : St) (a : FsAct) (q : Path) (h : ¬ touches a q) :
    (applyAct st a).fs q = st.fs q := by
  cases a with
  | write p bs =>
    simp only [applyAct]
    split
    · exact setFs_other _ _ h
    · rfl
  | rename s d =>
    exact (setFs_other _ _ fun e => h (Or.inl e)).trans (setFs_other _ _ fun e => h (Or.inr e))
  | _ => exact setFs_other _ _ h

theorem applyAct_clock_le (st : St) (a : FsAct) : st.clock ≤ (applyAct st a).clock := by
  cases a with
  | write p bs => simp only [applyAct]; split <;> exact Nat.le_refl _
  | create p => exact Nat.le_succ _
  | openKeep p => exact Nat.le_succ _
  | _ => exact Nat.le_refl _

theorem applyActs_nil (st : St) : applyActs st [] = st := rfl

theorem applyActs_cons (st : St) (a : FsAct) (acts : List FsAct) :
    applyActs st (a :: acts) = applyActs (applyAct st a) acts := rfl

theorem applyActs_append (st : St) (xs ys : List FsAct) :
    applyActs st (xs ++ ys) = applyActs (applyActs st xs) ys :=
  List.foldl_append

theorem applyActs_gr (st : St) (acts : List FsAct) : (applyActs st acts).gr = st.gr := by
  induction acts generalizing st with
  | nil => rfl
  | cons a acts ih => rw [applyActs_cons, ih, applyAct_gr]

theorem applyActs_frame (st : St) (acts : List FsAct) (q : Path)
    (h : ∀ a ∈ acts, ¬ touches a q) : (applyActs st acts).fs q = st.fs q := by
  induction acts generalizing st with
  | nil => rfl
  | cons a acts ih =>
    obtain ⟨ha, hrest⟩ := List.forall_mem_cons.mp h
    rw [applyActs_cons, ih _ hrest, applyAct_frame _ _ _ ha]

theorem applyActs_clock_le (st : St) (acts : List FsAct) : st.clock ≤ (applyActs st acts).clock := by
  induction acts generalizing st with
  | nil => exact Nat.le_refl _
  | cons a acts ih => exact Nat.le_trans (applyAct_clock_le st a) (ih _)

theorem applyActs_snoc_rename (st : St) (w : List FsAct) (s d : Path) (h : d ≠ s) :
    (applyActs st (w ++ [.rename s d])).fs d = (applyActs st w).fs s := by
  rw [applyActs_append]
  exact (setFs_other _ _ h).trans (setFs_same _ _ _)

/-- overwriting at the cursor: `new ++ old.drop new.length` is what a file shows after `new` has been
    written over the beginning of `old` -/
def overlay (new old : Bytes) : Bytes := new ++ old.drop new.length

theorem overlay_nil (new : Bytes) : overlay new [] = new := by simp [overlay]

theorem overlay_step (w bs old : Bytes) :
    (overlay w old).take w.length ++ bs ++ (overlay w old).drop (w.length + bs.length) =
      overlay (w ++ bs) old := by
  unfold overlay
  rw [List.take_left' rfl, List.drop_append, List.drop_drop, List.length_append,
    List.drop_eq_nil_of_le (Nat.le_add_right _ _), Nat.add_sub_cancel_left, List.nil_append,
    List.append_assoc]

theorem applyAct_write_overlay (st : St) (q : Path) (w bs old : Bytes) (c : Nat)
    (hf : st.fs q = some ⟨overlay w old, c⟩) (hc : st.cur q = w.length) :
    (applyAct st (.write q bs)).fs q = some ⟨overlay (w ++ bs) old, c⟩ ∧
    (applyAct st (.write q bs)).cur q = (w ++ bs).length := by
  simp only [applyAct, hf, hc, setFs_same, overlay_step, ↓reduceIte, List.length_append, and_self]

/-- the three writes after a (truncating or not) open: the file shows the canonical contents laid
    over whatever `old` the open left -/
theorem applyActs_writes_overlay (st : St) (dst : Path) (p : Params) (g body old : Bytes) (c : Nat)
    (hf : st.fs dst = some ⟨old, c⟩) (hc : st.cur dst = 0) :
    (applyActs st [.write dst (p.version ++ [NL]), .write dst (p.hash g ++ [NL]), .write dst body]).fs dst =
      some ⟨overlay (canon p g body) old, c⟩ := by
  obtain ⟨f1, c1⟩ := applyAct_write_overlay st dst [] (p.version ++ [NL]) old c hf hc
  obtain ⟨f2, c2⟩ := applyAct_write_overlay _ dst _ (p.hash g ++ [NL]) old c f1 c1
  exact (applyAct_write_overlay _ dst _ body old c f2 c2).1

theorem applyActs_writeOut (st : St) (dst : Path) (p : Params) (g body : Bytes) :
    (applyActs st (writeOut dst p g body)).fs dst = some ⟨canon p g body, st.clock⟩ := by
  rw [writeOut, applyActs_cons, ← overlay_nil (canon p g body)]
  exact applyActs_writes_overlay _ dst p g body [] st.clock (setFs_same _ _ _) (if_pos rfl)

theorem applyActs_writeOutKeep (st : St) (dst : Path) (p : Params) (g body : Bytes) :
    (applyActs st (writeOutKeep dst p g body)).fs dst =
      some ⟨overlay (canon p g body) (((st.fs dst).map (·.data)).getD []), st.clock⟩ := by
  rw [writeOutKeep, applyActs_cons]
  exact applyActs_writes_overlay _ dst p g body _ st.clock (setFs_same _ _ _) (if_pos rfl)

theorem writeOut_touches (dst : Path) (p : Params) (g body : Bytes) (q : Path) (h : q ≠ dst) :
    ∀ a ∈ writeOut dst p g body, ¬ touches a q := by
  intro a ha
  simp [writeOut] at ha
  rcases ha with rfl | rfl | rfl | rfl <;> exact h

theorem writeOutKeep_touches (dst : Path) (p : Params) (g body : Bytes) (q : Path) (h : q ≠ dst) :
    ∀ a ∈ writeOutKeep dst p g body, ¬ touches a q := by
  intro a ha
  simp [writeOutKeep] at ha
  rcases ha with rfl | rfl | rfl | rfl <;> exact h

theorem reportActs_touches (cfg : Cfg) (i : Nat) (reps : List Bytes) (q : Path) (h : q ≠ .rep i) :
    ∀ a ∈ reportActs cfg i reps, ¬ touches a q := by
  intro a ha
  unfold reportActs at ha
  split at ha
  · obtain ⟨r, _, hr⟩ := List.mem_flatMap.mp ha
    simp at hr
    rcases hr with rfl | rfl <;> exact h
  · cases ha

theorem CrashPrefix.full (acts : List FsAct) : CrashPrefix acts acts := by
  induction acts with
  | nil => exact .nil _
  | cons a acts ih => exact .cons a ih

theorem crashCut_isPrefix (acts : List FsAct) (k j : Nat) : CrashPrefix acts (crashCut acts k j) := by
  induction acts generalizing k with
  | nil => exact .nil _
  | cons a acts ih =>
    cases k with
    | zero =>
      cases a with
      | write p bs => exact .partialWrite p bs j acts
      | _ => exact .nil _
    | succ k => cases a <;> exact .cons _ (ih k)

theorem CrashPrefix.of_nil {cut : List FsAct} (h : CrashPrefix [] cut) : cut = [] := by
  cases h; rfl

theorem CrashPrefix.append_left (xs : List FsAct) {ys cut : List FsAct} (h : CrashPrefix ys cut) :
    CrashPrefix (xs ++ ys) (xs ++ cut) := by
  induction xs with
  | nil => exact h
  | cons x xs ih => exact .cons x ih

/-- a crash prefix touches no path that the whole list does not touch (a write that is cut short is
    still a write to the same path) -/
theorem CrashPrefix.not_touches {q : Path} {acts cut : List FsAct} (h : CrashPrefix acts cut)
    (hall : ∀ a ∈ acts, ¬ touches a q) : ∀ a ∈ cut, ¬ touches a q := by
  induction h with
  | nil => intro a ha; cases ha
  | cons a _ ih =>
    obtain ⟨ha, hrest⟩ := List.forall_mem_cons.mp hall
    exact List.forall_mem_cons.mpr ⟨ha, ih hrest⟩
  | partialWrite p bs j acts =>
    exact List.forall_mem_singleton.mpr (List.forall_mem_cons.mp hall).1

/-- `rename` has no partial form: a crash prefix of `xs ++ [rename s d]` is one of `xs`, or everything -/
theorem CrashPrefix.snoc_rename {xs cut : List FsAct} {s d : Path}
    (h : CrashPrefix (xs ++ [.rename s d]) cut) :
    CrashPrefix xs cut ∨ cut = xs ++ [.rename s d] := by
  induction xs generalizing cut with
  | nil =>
    cases h with
    | nil => exact Or.inl (.nil _)
    | cons _ h' => exact Or.inr (by rw [h'.of_nil]; rfl)
  | cons x xs ih =>
    rw [List.cons_append] at h
    cases h with
    | nil => exact Or.inl (.nil _)
    | cons _ h' => exact (ih h').imp (.cons _) (congrArg _)
    | partialWrite p bs j => exact Or.inl (.partialWrite p bs j xs)

end LalrpopModel.Build
