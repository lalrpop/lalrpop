import LalrpopModel.Lemmas.LRSoundStep
/-!
Soundness of the model driver: the step invariant read at the level of runs, for `Sound G T A`
(which `validateSound G T A = true` implies, `sound_of_validate`).
-/
namespace LalrpopModel.LR
variable {G : Grammar} {T : Tables} {A : Automaton}

theorem init_inv (startLoc : Int) {input : List Item} (hin : InRange T input) :
    Inv G T A input (init startLoc input) .pull :=
  -- `measure (init startLoc input) .pull` computes to `input`
  ⟨⟨[], Path.base, TreesOK.nil⟩, hin, fun _ => rfl, trivial⟩

theorem Inv.of_run (S : Sound G T A) {input : List Item} (hin : InRange T input) {af : Nat}
    {failAt : Option Nat} {startLoc : Int} {n : Nat} {c : Cfg} {ph : Phase}
    (h : run T af failAt startLoc n (init startLoc input) .pull = (c, ph)) : Inv G T A input c ph := by
  have := Generic.run_inv T af failAt startLoc (Inv G T A input) (step_inv S af failAt startLoc)
    (init_inv (G := G) (A := A) startLoc hin) n
  rwa [h] at this

theorem returns_inv (S : Sound G T A) {failAt : Option Nat} {startLoc : Int} {input : List Item} {c : Cfg}
    {r : Outcome} (hin : InRange T input) (h : Returns T failAt startLoc input c r) :
    Inv G T A input c (.done r) := by
  obtain ⟨n, af, hrun⟩ := h
  exact .of_run S hin hrun

theorem errT_none (h : T.usesRecovery = false) : errT T = none := by simp [errT, h]

/-- kind of a stream item (`none` for an error item or an unmatched token) -/
def itemKind : Item → Option Term
  | .tok t => t.kind
  | .err _ => none

theorem exists_kinds {α : Type} (f : α → Option Term) : ∀ (l : List α), (∀ a ∈ l, ∃ k, f a = some k) →
    ∃ w : List Term, l.map f = w.map some
  | [], _ => ⟨[], rfl⟩
  | a :: l, h => by
    obtain ⟨k, hk⟩ := h a List.mem_cons_self
    obtain ⟨w, hw⟩ := exists_kinds f l (fun b hb => h b (List.mem_cons_of_mem _ hb))
    exact ⟨k :: w, by simp [hk, hw]⟩

end LalrpopModel.LR
