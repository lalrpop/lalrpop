import LalrpopModel.Lemmas.LRGenericSpans
/-!
C16, full token accounting on the symbol stack (arbitrary tables, monotone token spans): the
tokens consumed so far split into consecutive segments, one per stack symbol, each segment lies
inside its symbol's span and contains the tokens the symbol's tree covers as a subsequence. For an
error symbol the segment is "tokens of the popped symbols ++ dropped tokens".
-/
namespace LalrpopModel.LR.Generic
open LalrpopModel.LR
variable {T : Tables} {af : Nat} {failAt : Option Nat} {startLoc : Int}

/-- `states` is one longer than `symbols`; `error_recovery` remembers the right `states_len` -/
structure ShapeInv (c : Cfg) (ph : Phase) : Prop where
  len : phDone ph = false → c.states.length = c.symbols.length + 1
  sl : ∀ la e d sl fe, ph = .recFind la e d sl fe → sl = c.states.length

theorem ShapeInv.of_done (c : Cfg) (r : Outcome) : ShapeInv c (.done r) :=
  ⟨nofun, fun _ _ _ _ _ h => nomatch h⟩

theorem ShapeInv.of_len {c : Cfg} {ph : Phase} (hlen : c.states.length = c.symbols.length + 1)
    (hph : ∀ la e d sl fe, ph ≠ .recFind la e d sl fe) : ShapeInv c ph :=
  ⟨fun _ => hlen, fun la e d sl fe h => (hph la e d sl fe h).elim⟩

theorem ShapeInv.step {c c' : Cfg} {ph ph' : Phase} (h : ShapeInv c ph)
    (hs : Step T af failAt startLoc c ph c' ph') : ShapeInv c' ph' := by
  cases hs with
  | done r => exact h
  | pull _ nt hn =>
    have hlen : c'.states.length = c'.symbols.length + 1 := by
      rw [hn.frame.2.2.1, hn.frame.2.2.2.1]; exact h.len rfl
    cases nt with
    | done r => exact .of_done _ _
    | eof => exact .of_len hlen (fun _ _ _ _ _ h => nomatch h)
    | found t i => exact .of_len hlen (fun _ _ _ _ _ h => nomatch h)
  | shift la idx top rest a target hst ha hsh =>
    exact .of_len (congrArg (· + 1) (h.len rfl)) (fun _ _ _ _ _ h => nomatch h)
  | redCont _ p ls _ hctx hr =>
    have hnd : phDone ph = false := hctx.held_eq.1
    cases hr with
    | cont n A hn hlen hnf hlhs hst below more hss =>
      refine ⟨fun _ => ?_, fun la e d sl fe hh => (hh ▸ hctx).elim⟩
      -- `n` states and `n` symbols are popped, one of each is pushed
      have h2 : c.states.length - n = more.length + 1 := by rw [← List.length_drop, hss]; rfl
      show more.length + 1 + 1 = (c.symbols.drop n).length + 1 + 1
      rw [List.length_drop, ← h2, h.len hnd, Nat.succ_sub hn]
  | enterRec _ la fe ex hctx hex hrec => exact .of_len (h.len hctx.held.1) (fun _ _ _ _ _ h => nomatch h)
  | toFind la e fe top rest a hst ha hnr =>
    exact ⟨fun _ => h.len rfl, fun _ _ _ _ _ hh => (Phase.recFind.inj hh).2.2.2.1.symm⟩
  | push la e dropped sl fe top hf _ _ hp =>
    cases hp with
    | panic tag => exact .of_done _ _
    | ok l r hl hr rs rest hrs a ha es hes =>
      -- the bottom `top + 1` states and `top` symbols are kept, one of each is pushed
      have htop : top < c.states.length := h.sl _ _ _ _ _ rfl ▸ (findState_some hf).1
      refine ⟨fun _ => ?_, fun la' e' d' sl' fe' hh => ?_⟩
      · show (truncBot c.states (top + 1)).length + 1 = (truncBot c.symbols top).length + 1 + 1
        rw [truncBot_length htop, truncBot_length (Nat.le_of_lt_succ (Nat.lt_of_lt_of_eq htop (h.len rfl)))]
      · rcases la with _ | ⟨t, i⟩ <;> cases fe <;> cases hh
  | drop t i e dropped sl fe hf _ nt hn =>
    have hst : c'.states = c.states := hn.frame.2.2.1
    have hlen : c'.states.length = c'.symbols.length + 1 := by
      rw [hst, hn.frame.2.2.2.1]; exact h.len rfl
    have hsl : sl = c'.states.length := hst ▸ h.sl _ _ _ _ _ rfl
    cases nt with
    | done r => exact .of_done _ _
    | eof => exact ⟨fun _ => hlen, fun _ _ _ _ _ hh => (Phase.recFind.inj hh).2.2.2.1 ▸ hsl⟩
    | found t i => exact ⟨fun _ => hlen, fun _ _ _ _ _ hh => (Phase.recFind.inj hh).2.2.2.1 ▸ hsl⟩
  | _ => exact .of_done _ _

theorem ShapeInv.init (input : List Item) : ShapeInv (init startLoc input) .pull :=
  .of_len rfl (fun _ _ _ _ _ h => nomatch h)


def Inside (s : SymTriple) (t : Tok) : Prop := s.1 ≤ t.l ∧ t.r ≤ s.2.2

/-- `toks` splits into consecutive segments, one per stack symbol (bottom symbol first); each
    segment lies inside its symbol's span and contains the tokens the symbol's tree covers -/
def Seg : List SymTriple → List Tok → Prop
  | [], toks => toks = []
  | s :: rest, toks => ∃ pre seg, toks = pre ++ seg ∧ Seg rest pre ∧ (∀ t ∈ seg, Inside s t) ∧
      (Tree.covered s.2.1).Sublist seg

theorem Seg.split {syms : List SymTriple} {toks : List Tok} (h : Seg syms toks) (n : Nat) :
    ∃ pre seg, toks = pre ++ seg ∧ Seg (syms.drop n) pre ∧
      (∀ t ∈ seg, ∃ s ∈ syms.take n, Inside s t) ∧ (stackCovered (syms.take n)).Sublist seg := by
  induction n generalizing syms toks with
  | zero => exact ⟨toks, [], (List.append_nil _).symm, h, fun _ ht => (nomatch ht), .slnil⟩
  | succ n ih =>
    cases syms with
    | nil => exact ⟨toks, [], (List.append_nil _).symm, h, fun _ ht => (nomatch ht), .slnil⟩
    | cons s rest =>
      obtain ⟨pre0, seg0, rfl, h1, h2, h3⟩ := h
      obtain ⟨pre1, seg1, rfl, g1, g2, g3⟩ := ih h1
      refine ⟨pre1, seg1 ++ seg0, (List.append_assoc ..), g1, fun t ht => ?_, g3.append h3⟩
      rcases List.mem_append.mp ht with ht | ht
      · obtain ⟨s', hs', hin⟩ := g2 t ht
        exact ⟨s', List.mem_cons_of_mem _ hs', hin⟩
      · exact ⟨s, List.mem_cons_self .., h2 t ht⟩

theorem Ordered.between {lo : Int} {syms : List SymTriple} (h : Ordered lo syms) {i j : Nat} (hij : i ≤ j)
    {a b : SymTriple} (hi : syms[i]? = some a) (hj : syms[j]? = some b) :
    b.1 ≤ a.1 ∧ a.2.2 ≤ topEnd lo syms := by
  obtain ⟨g1, g2, g3, g4⟩ := h.get hi
  refine ⟨?_, g4⟩
  by_cases heq : i = j
  · subst heq; rw [hi] at hj; injection hj with hj; subst hj; exact Int.le_refl _
  · have hb : b ∈ syms.drop (i + 1) := by
      apply List.mem_iff_getElem?.mpr
      exact ⟨j - (i + 1), by rw [List.getElem?_drop]; rw [← hj]; congr 1; omega⟩
    have := g1.mem hb
    omega

theorem mem_take_index {α : Type} {l : List α} {n : Nat} {x : α} (h : x ∈ l.take n) :
    ∃ i, i < n ∧ l[i]? = some x := by
  obtain ⟨i, hi, rfl⟩ := List.mem_iff_getElem.mp h
  rw [List.length_take] at hi
  exact ⟨i, Nat.lt_of_lt_of_le hi (Nat.min_le_left ..), by rw [List.getElem_take]; exact List.getElem?_eq_getElem _⟩

theorem reduceSym_contains (c : Cfg) (p : Nat) (ls : Option Int) {n : Nat} (hn : n ≤ c.symbols.length)
    (hord : Ordered startLoc c.symbols) {s : SymTriple} (hs : s ∈ c.symbols.take n) :
    (reduceSym startLoc c p n ls).1 ≤ s.1 ∧ s.2.2 ≤ (reduceSym startLoc c p n ls).2.2 := by
  obtain ⟨i, hi, hsi⟩ := mem_take_index hs
  obtain ⟨f, hd, hf, hhd, e1, e2⟩ := reduceSym_span_pos (startLoc := startLoc) c p ls (Nat.zero_lt_of_lt hi) hn
  rw [e1, e2, ← topEnd_of_head (lo := startLoc) hhd]
  exact hord.between (Nat.le_sub_one_of_lt hi) hsi hf

theorem Seg.shift {syms : List SymTriple} {pre : List Tok} (la : Tok) (h : Seg syms pre) :
    Seg ((la.l, Tree.leaf la, la.r) :: syms) (pre ++ [la]) :=
  ⟨pre, [la], rfl, h, fun _ ht => List.mem_singleton.mp ht ▸ ⟨Int.le_refl _, Int.le_refl _⟩,
    Tree.covered_leaf la ▸ List.Sublist.refl _⟩

theorem Seg.reduce {c : Cfg} {pre : List Tok} (p : Nat) {n : Nat} (ls : Option Int)
    (hord : Ordered startLoc c.symbols) (hn : n ≤ c.symbols.length) (h : Seg c.symbols pre) :
    Seg (reduceSym startLoc c p n ls :: c.symbols.drop n) pre := by
  obtain ⟨pre1, seg, rfl, g1, g2, g3⟩ := h.split n
  refine ⟨pre1, seg, rfl, g1, fun t ht => ?_, by rw [Tree.covered, collect_reduceSym]; exact g3⟩
  obtain ⟨s, hs, hin⟩ := g2 t ht
  have := reduceSym_contains (startLoc := startLoc) c p ls hn hord hs
  exact ⟨Int.le_trans this.1 hin.1, Int.le_trans hin.2 this.2⟩

theorem Seg.pushErr {c : Cfg} {la : Option (Tok × Term)} {e : PErr} {d : List Tok} {sl : Nat} {fe : Bool}
    {pre : List Tok} {top : Nat} {l r : Int} (hsp : SpanInv startLoc c (.recFind la e d sl fe))
    (hsh : ShapeInv c (.recFind la e d sl fe))
    (hl : recStart startLoc c d top = .ok l) (hr : recEnd c la d sl top l = .ok r)
    (h : Seg c.symbols pre) : Seg ((l, Tree.err e d, r) :: truncBot c.symbols top) (pre ++ d) := by
  have hord := hsp.ord rfl
  have hch : MonoFrom (topEnd startLoc c.symbols) (d ++ laToks la) := hsp.chain rfl
  obtain ⟨s0, -, s2, s3⟩ := recStart_facts hord hch hl
  obtain ⟨r0, -, r2, -, -⟩ := recEnd_facts hch (hsp.last rfl) s2 s3 hr
  obtain ⟨pre1, seg, rfl, g1, g2, g3⟩ := h.split (c.symbols.length - top)
  refine ⟨pre1, seg ++ d, List.append_assoc .., g1, fun t ht => ?_,
    Tree.covered_err e d ▸ List.sublist_append_right seg d⟩
  rcases List.mem_append.mp ht with ht | ht
  · -- `t` belongs to a popped symbol `s`: the bottom-most popped symbol starts at `l`, and `r`
    -- is at or after the end of the old top of the stack
    obtain ⟨s, hs, hin⟩ := g2 t ht
    obtain ⟨i, hi, hsi⟩ := mem_take_index hs
    have htop : top < c.symbols.length := Nat.lt_of_sub_pos (Nat.zero_lt_of_lt hi)
    obtain ⟨f, hf', rfl⟩ := s0 htop
    have hb := hord.between (Nat.sub_right_comm .. ▸ Nat.le_sub_one_of_lt hi) hsi hf'
    have hge := r0 (by rw [hsh.sl _ _ _ _ _ rfl, hsh.len rfl]; exact Nat.succ_lt_succ htop)
    exact ⟨Int.le_trans hb.1 hin.1, Int.le_trans hin.2 (Int.le_trans hb.2 hge)⟩
  · exact r2 t ht

/-- the accounting invariant: consumed tokens = segments of the stack ++ tokens held by the phase -/
theorem seginv_of_run {input : List Item} (hmono : MonoFrom startLoc (toksOf input)) {n : Nat} {c : Cfg}
    {ph : Phase} (h : run T af failAt startLoc n (init startLoc input) .pull = (c, ph)) :
    Acct Seg input c ph := by
  refine (inv_of_run (fun c ph => SpanInv startLoc c ph ∧ ShapeInv c ph ∧ Acct Seg input c ph)
    ⟨SpanInv.init input, ShapeInv.init input, Acct.init rfl input⟩ ?_ h).2.2.2
  intro c ph c' ph' hio ⟨hsp, hsh, hacc⟩ hs
  refine ⟨hsp.step hmono hio hs, hsh.step hs, ?_⟩
  exact Acct.step (J := fun c ph => SpanInv startLoc c ph ∧ ShapeInv c ph)
    (fun _ _ la hR => hR.shift la)
    (fun c ph pre p n ls hJ hnd hn hR => hR.reduce p ls (hJ.1.ord hnd) hn)
    (fun c la e d sl fe pre top l r hJ _ hl hr _ hR => hR.pushErr hJ.1 hJ.2 hl hr)
    hio.inp ⟨hsp, hsh⟩ hacc hs

end LalrpopModel.LR.Generic
