import LalrpopModel.Lemmas.LRCompleteRun
import LalrpopModel.Lemmas.LRCompleteValid
/-!
LR completeness: the induction. `parse_tree` / `parse_forest` (mutual structural
induction on derivation trees, DESIGN.md Appendix A lifted to the executable driver) and the
resulting `drive_complete_run`: on the yield of a derivation tree of the start symbol the driver
returns a value of the same shape, having pulled every token once (plus the EOF probe) and run
one action per node in post-order, then the start production.
-/
namespace LalrpopModel.LR

abbrev shapeOf (x : SymTriple) : Tree := x.2.1.shape

section
variable {G : Grammar} {T : Tables} {ann : Ann}

theorem drop_succ_rhs {pr : Production} {d : Nat} {X : Sym} {Xs : List Sym}
    (h : pr.rhs.drop d = X :: Xs) : pr.rhs[d]? = some X ∧ pr.rhs.drop (d + 1) = Xs ∧ d < pr.rhs.length := by
  have h1 : pr.rhs[d]? = some X := by rw [← List.head?_drop, h, List.head?_cons]
  have h2 : pr.rhs.drop (d + 1) = Xs := by rw [← List.tail_drop, h, List.tail_cons]
  exact ⟨h1, h2, getElem?_lt h1⟩

mutual
/-- a tree whose root is the symbol after the dot of an item of the top state is parsed: the
    machine consumes its yield, pushes a value of the same shape and reaches a state holding the
    advanced item; one token pulled per leaf, one action per node, in post-order.
    The last hypothesis is what the induction turns on: the input after the tree derives from the
    rest of the item, followed by tokens under the item's lookahead `la`; so `firstSeq_sound` puts
    the token the machine really sees next among the lookaheads of the closure items of a node's
    production, and the reduce entry the node ends with is the one the table has under that token. -/
theorem parse_tree (V : Valid G T ann) (af : Nat) (failAt : Option Nat) (hf : NoFail T failAt) (startLoc : Int) :
    (t : Tree) → (c : Cfg) → (ph : Phase) → (v : List Tok) → (p d : Nat) → (la : LA) →
    (pr : Production) → (X : Sym) → (s : Nat) → (sts : List Nat) →
    Tree.WF G none t → t.root G none = some X → c.states = s :: sts →
    (p, d, la) ∈ itemsOf ann s → G.prods[p]? = some pr → pr.rhs[d]? = some X →
    Rdy c ph (t.yield ++ v) → AllK v →
    (∃ fs v', Forest.WF G none fs (pr.rhs.drop (d + 1)) ∧ laOf v' = la ∧ v = fs.yield ++ v') →
    ∃ c' ph' s' x, Reach T af failAt startLoc (c, ph) (c', ph') ∧ (p, d + 1, la) ∈ itemsOf ann s' ∧
      c'.states = s' :: s :: sts ∧ c'.symbols = x :: c.symbols ∧ shapeOf x = t.shape ∧
      Rdy c' ph' v ∧ c'.pulled = c.pulled + t.yield.length ∧
      c'.trace = t.post.reverse ++ c.trace ∧ c'.acts = c.acts + t.post.length
  | .leaf a => by
    intro c ph v p d la pr X s sts hwf hroot hst hit hp hX hr hv _
    cases hwf with
    | leaf _ k hk =>
      simp [Tree.root, hk] at hroot
      subst hroot
      obtain ⟨act, hact, hpos, hit'⟩ := V.shift _ _ _ _ _ _ hit hp hX
      obtain ⟨c1, hs1, hin1, hst1, hsy1, hpu1, htr1, hac1⟩ :=
        step_shift T af failAt startLoc c ph a v k s sts act (by simpa [Tree.yield] using hr) hk hst hact hpos
      obtain ⟨c2, ph2, hs2, hr2, hst2, hsy2, hpu2, htr2, hac2⟩ := step_pull_rdy T af failAt startLoc c1 v hin1 hv
      exact ⟨c2, ph2, (act - 1).toNat, (a.l, Tree.leaf a, a.r), (Reach.step hs1).trans (Reach.step hs2), hit',
        hst2.trans (hst ▸ hst1), hsy2.trans hsy1, rfl, hr2, hpu1 ▸ hpu2, htr2.trans htr1, hac2.trans hac1⟩
  | .node q l r ks => by
    intro c ph v p d la pr X s sts hwf hroot hst hit hp hX hr hv hrest
    cases hwf with
    | node _ _ _ qr _ hq hks =>
      simp [Tree.root, hq] at hroot
      subst hroot
      obtain ⟨fs, v', hfs, hv', rfl⟩ := hrest
      -- closure: the initial item of `q` with the actual next token as lookahead
      have hcl := V.closure _ _ _ _ _ _ hit hp hX q qr hq rfl _
        (hv' ▸ firstSeq_sound V.first fs _ v' hfs)
      obtain ⟨c1, ph1, top1, rest1, hre1, hst1, hit1, hdr1, hle1, hsd1, hsh1, hr1, hpu1, htr1, hac1⟩ :=
        parse_forest V af failAt hf startLoc ks c ph (fs.yield ++ v') q 0 _ qr s sts s sts c.symbols
          (by simpa using hks) hq (Nat.zero_le _) hst hcl rfl hv (by simp [hst]) (Nat.zero_le _) (by simp)
          (by simpa [Tree.yield] using hr)
      have hne : q ≠ G.startProd := by
        intro h; subst h
        exact V.start_fresh qr hq p pr d hp hX
      obtain ⟨_, hact, _⟩ := V.reduce _ _ _ _ _ hit1 hq (by simp)
      obtain ⟨fal, hfal⟩ := V.fallible q qr hq
      have his := V.isStart q qr hq
      have hisf : T.isStart[q]? = some false := by
        rw [his]; simp [hne]
      obtain ⟨c2, l2, r2, hs2, hr2, hst2, hsy2, hpu2, htr2, hac2⟩ :=
        step_reduce T af failAt startLoc hf c1 ph1 (fs.yield ++ v') top1 rest1 q qr.rhs.length qr.lhs fal
          hr1 hst1 hact (V.prodLen q qr hq) (V.prodLhs q qr hq hne) hisf hfal hle1 s sts hdr1
      refine ⟨c2, ph1, T.gotoAt s qr.lhs,
        (l2, Tree.node q l2 r2 (Forest.ofList ((c1.symbols.take qr.rhs.length).reverse.map (·.2.1))), r2),
        hre1.trans (Reach.step hs2), V.goto _ _ _ _ _ _ hit hp hX, hst2, hsd1 ▸ hsy2, ?_, hr2, hpu2.trans hpu1, ?_, ?_⟩
      · refine congrArg (Tree.node q 0 0) (Forest.shape_ofList_of_map_eq ?_)
        simpa [shapeOf, List.map_map, Function.comp_def] using hsh1
      · rw [htr2, htr1, Tree.post, List.reverse_append]
        rfl
      · rw [hac2, hac1, Tree.post, List.length_append, Nat.add_assoc]
        rfl
  | .err _ _ => by
    intro _ _ _ _ _ _ _ _ _ _ hwf
    cases hwf with
    | err _ _ k hk => cases hk
/-- the remaining children of a production are parsed one after the other; the final state holds
    the complete item with the same lookahead -/
theorem parse_forest (V : Valid G T ann) (af : Nat) (failAt : Option Nat) (hf : NoFail T failAt) (startLoc : Int) :
    (fs : Forest) → (c : Cfg) → (ph : Phase) → (v : List Tok) → (p d : Nat) → (la : LA) →
    (pr : Production) → (top : Nat) → (rest : List Nat) → (s0 : Nat) → (sts0 : List Nat) →
    (syms0 : List SymTriple) →
    Forest.WF G none fs (pr.rhs.drop d) → G.prods[p]? = some pr → d ≤ pr.rhs.length →
    c.states = top :: rest → (p, d, la) ∈ itemsOf ann top → laOf v = la → AllK v →
    c.states.drop d = s0 :: sts0 → d ≤ c.symbols.length → c.symbols.drop d = syms0 →
    Rdy c ph (fs.yield ++ v) →
    ∃ c' ph' top' rest', Reach T af failAt startLoc (c, ph) (c', ph') ∧ c'.states = top' :: rest' ∧
      (p, pr.rhs.length, la) ∈ itemsOf ann top' ∧
      c'.states.drop pr.rhs.length = s0 :: sts0 ∧ pr.rhs.length ≤ c'.symbols.length ∧
      c'.symbols.drop pr.rhs.length = syms0 ∧
      (c'.symbols.take pr.rhs.length).reverse.map shapeOf =
        (c.symbols.take d).reverse.map shapeOf ++ fs.toList.map Tree.shape ∧
      Rdy c' ph' v ∧ c'.pulled = c.pulled + fs.yield.length ∧
      c'.trace = fs.post.reverse ++ c.trace ∧ c'.acts = c.acts + fs.post.length
  | .nil => by
    intro c ph v p d la pr top rest s0 sts0 syms0 hwf hp hd_le hst hit hla hv hdr hle hsd hr
    cases hdrop : pr.rhs.drop d with
    | nil =>
      cases Nat.le_antisymm hd_le (List.drop_eq_nil_iff.mp hdrop)
      exact ⟨c, ph, top, rest, Reach.refl _, hst, hit, hdr, hle, hsd, (List.append_nil _).symm, hr, rfl, rfl, rfl⟩
    | cons X Xs => cases hdrop ▸ hwf
  | .cons t ts => by
    intro c ph v p d la pr top rest s0 sts0 syms0 hwf hp hd_le hst hit hla hv hdr hle hsd hr
    cases hdrop : pr.rhs.drop d with
    | nil => cases hdrop ▸ hwf
    | cons X Xs =>
      rw [hdrop] at hwf
      cases hwf with
      | cons _ _ _ _ hwt hroot hwts =>
        obtain ⟨hX, hXs, hlt⟩ := drop_succ_rhs hdrop
        have hvs : AllK (ts.yield ++ v) := AllK.append (Forest.wf_yield_kind ts hwts) hv
        obtain ⟨c1, ph1, s1, x, hre1, hit1, hst1, hsy1, hsh1, hr1, hpu1, htr1, hac1⟩ :=
          parse_tree V af failAt hf startLoc t c ph (ts.yield ++ v) p d la pr X top rest hwt hroot hst hit hp hX
            (by simpa [Forest.yield, List.append_assoc] using hr) hvs
            ⟨ts, v, hXs ▸ hwts, hla, rfl⟩
        obtain ⟨c2, ph2, top2, rest2, hre2, hst2, hit2, hdr2, hle2, hsd2, hsh2, hr2, hpu2, htr2, hac2⟩ :=
          parse_forest V af failAt hf startLoc ts c1 ph1 v p (d + 1) la pr s1 (top :: rest) s0 sts0 syms0
            (hXs ▸ hwts) hp hlt hst1 hit1 hla hv
            (by rw [hst1, List.drop_succ_cons, ← hst]; exact hdr)
            (hsy1 ▸ Nat.succ_le_succ hle)
            (by rw [hsy1, List.drop_succ_cons]; exact hsd) hr1
        refine ⟨c2, ph2, top2, rest2, hre1.trans hre2, hst2, hit2, hdr2, hle2, hsd2, ?_, hr2, ?_, ?_, ?_⟩
        · rw [hsh2, hsy1]
          simp [List.take_succ_cons, Forest.toList, hsh1]
        · rw [hpu2, hpu1, Forest.yield, List.length_append, Nat.add_assoc]
        · rw [htr2, htr1, Forest.post, List.reverse_append, List.append_assoc]
        · rw [hac2, hac1, Forest.post, List.length_append, Nat.add_assoc]
end

/-- completeness with explicit fuel: for every `accepts` fuel `af` there is a step count -/
theorem drive_complete_run (V : Valid G T ann) (af : Nat) (failAt : Option Nat) (hf : NoFail T failAt) (startLoc : Int) (t : Tree) (S : NT)
    (hS : G.startSym = some S) (hwf : Tree.WF G none t) (hroot : t.root G none = some (Sym.n S)) :
    ∃ n c v, run T af failAt startLoc n (init startLoc (t.yield.map Item.tok)) .pull = (c, .done (.ok v)) ∧
      v.shape = t.shape ∧ c.pulled = t.yield.length + 1 ∧
      c.trace.reverse = t.post ++ [G.startProd] ∧ c.acts = t.post.length + 1 := by
  obtain ⟨sp, S', hsp, hrhs⟩ := V.start_prod
  rw [startSym_eq hsp hrhs] at hS
  cases hS
  obtain ⟨c1, ph1, hs1, hr1, hst1, hsy1, hpu1, htr1, hac1⟩ :=
    step_pull_rdy T af failAt startLoc (init startLoc (t.yield.map Item.tok)) t.yield rfl (Tree.wf_yield_kind t hwf)
  obtain ⟨c2, ph2, s', x, hre2, hit2, hst2, hsy2, hsh2, hr2, hpu2, htr2, hac2⟩ :=
    parse_tree V af failAt hf startLoc t c1 ph1 [] G.startProd 0 none sp (Sym.n S) 0 [] hwf hroot
      (by rw [hst1]; rfl) V.start_item hsp (by simp [hrhs]) (by simpa using hr1)
      (by intro a ha; cases ha)
      ⟨.nil, [], hrhs ▸ Forest.WF.nil, rfl, rfl⟩
  obtain ⟨rfl, _⟩ := hr2
  obtain ⟨_, hact, _⟩ := V.reduce s' G.startProd 1 none sp hit2 hsp (by simp [hrhs])
  obtain ⟨fal, hfal⟩ := V.fallible _ _ hsp
  obtain ⟨B, hB⟩ := V.prodLhs_some _ _ hsp
  have hlen : T.prodLen[G.startProd]? = some 1 := by
    rw [V.prodLen _ _ hsp, hrhs]; rfl
  have his : T.isStart[G.startProd]? = some true := by
    rw [V.isStart _ _ hsp]; simp
  obtain ⟨c3, hs3, hpu3, htr3, hac3⟩ :=
    step_accept T af failAt startLoc hf c2 s' [0] G.startProd B fal x hst2 hact hlen hB his hfal
      (by rw [hsy2, hsy1]; rfl)
  obtain ⟨n, hn⟩ := ((Reach.step hs1).trans hre2).trans (Reach.step hs3)
  refine ⟨n, c3, x.2.1, hn, hsh2, ?_, ?_, ?_⟩
  · rw [hpu3, hpu2, hpu1]
    exact Nat.add_comm _ _
  · rw [htr3, htr2, htr1]
    simp [init]
  · rw [hac3, hac2, hac1]
    simp [init]

end
end LalrpopModel.LR
