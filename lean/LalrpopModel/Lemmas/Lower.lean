import LalrpopModel.Model.Lower
/-!
Lemmas about the `<>` string primitives of M-LOWER. Each of `countAngle`, `replaceAngle`,
`replaceFirstAngle`, `findAngle` is an expression in the `<>`-free pieces of the action
(`splitAngle`); the pieces are the only decomposition into `<>`-free parts (`splitAngle_joinWith`);
the fold of `replacen(.., 1)` is interleaving when the inserted names are clean
(`replaceEach_eq`).
-/
namespace LalrpopModel.Lower

theorem splitAngle_match (rest : Str) : splitAngle ('<' :: '>' :: rest) = [] :: splitAngle rest := by
  simp only [splitAngle, and_self, if_true]

theorem splitAngle_cons_cons (c d : Char) (rest : Str) (h : ¬(c = '<' ∧ d = '>')) :
    splitAngle (c :: d :: rest) = consHead c (splitAngle (d :: rest)) := by
  simp only [splitAngle, h, if_false]

theorem countAngle_match (rest : Str) : countAngle ('<' :: '>' :: rest) = countAngle rest + 1 := by
  simp only [countAngle, and_self, if_true]

theorem countAngle_cons_cons (c d : Char) (rest : Str) (h : ¬(c = '<' ∧ d = '>')) :
    countAngle (c :: d :: rest) = countAngle (d :: rest) := by
  simp only [countAngle, h, if_false]

theorem length_consHead (c : Char) (l : List Str) (h : l ≠ []) : (consHead c l).length = l.length := by
  match l, h with
  | _ :: _, _ => rfl

/-- the number of matches is the number of gaps between the pieces -/
theorem countAngle_eq (s : Str) : countAngle s + 1 = (splitAngle s).length := by
  induction s using countAngle.induct with
  | case1 => rfl
  | case2 c => rfl
  | case3 c d rest h ih =>
    obtain ⟨rfl, rfl⟩ := h
    rw [splitAngle_match, countAngle_match, ih]
    rfl
  | case4 c d rest h ih =>
    rw [splitAngle_cons_cons c d rest h, countAngle_cons_cons c d rest h,
      length_consHead _ _ (List.ne_nil_of_length_eq_add_one ih.symm), ih]

theorem splitAngle_ne_nil (s : Str) : splitAngle s ≠ [] :=
  List.ne_nil_of_length_eq_add_one (countAngle_eq s).symm

theorem interleave_singleton (p : Str) (names : List Str) : interleave [p] names = p := by
  cases names <;> rfl

theorem joinWith_head_append (sep a q : Str) (rest : List Str) :
    joinWith sep ((a ++ q) :: rest) = a ++ joinWith sep (q :: rest) := by
  cases rest with
  | nil => rfl
  | cons q' rest => simp only [joinWith, List.append_assoc]

theorem interleave_head_append (a q : Str) (rest names : List Str) :
    interleave ((a ++ q) :: rest) names = a ++ interleave (q :: rest) names := by
  cases rest with
  | nil => rw [interleave_singleton, interleave_singleton]
  | cons q' rest => cases names <;> simp only [interleave, List.append_assoc]

theorem joinWith_consHead (sep : Str) (c : Char) (l : List Str) (h : l ≠ []) :
    joinWith sep (consHead c l) = c :: joinWith sep l := by
  match l, h with
  | q :: rest, _ => exact joinWith_head_append sep [c] q rest

theorem interleave_consHead (c : Char) (l names : List Str) (h : l ≠ []) :
    interleave (consHead c l) names = c :: interleave l names := by
  match l, h with
  | q :: rest, _ => exact interleave_head_append [c] q rest names

theorem interleave_no_names (ps : List Str) : interleave ps [] = joinWith ['<', '>'] ps := by
  induction ps with
  | nil => rfl
  | cons p rest ih =>
    cases rest with
    | nil => rfl
    | cons q rest' => simp only [interleave, joinWith, ih]

/-- reconstruction: the pieces joined by `<>` give the string back -/
theorem joinWith_splitAngle (s : Str) : joinWith ['<', '>'] (splitAngle s) = s := by
  induction s using countAngle.induct with
  | case1 => rfl
  | case2 c => rfl
  | case3 c d rest h ih =>
    obtain ⟨rfl, rfl⟩ := h
    obtain ⟨q, qs, hs⟩ := List.exists_cons_of_ne_nil (splitAngle_ne_nil rest)
    rw [splitAngle_match, hs, ← ih, hs]
    rfl
  | case4 c d rest h ih =>
    rw [splitAngle_cons_cons c d rest h, joinWith_consHead _ _ _ (splitAngle_ne_nil _), ih]

theorem countAngle_piece (s : Str) : ∀ p ∈ splitAngle s, countAngle p = 0 := by
  induction s using countAngle.induct with
  | case1 => exact List.forall_mem_singleton.2 rfl
  | case2 c => exact List.forall_mem_singleton.2 rfl
  | case3 c d rest h ih =>
    obtain ⟨rfl, rfl⟩ := h
    rw [splitAngle_match]
    exact List.forall_mem_cons.2 ⟨rfl, ih⟩
  | case4 c d rest h ih =>
    obtain ⟨q, qs, hsp⟩ := List.exists_cons_of_ne_nil (splitAngle_ne_nil (d :: rest))
    rw [splitAngle_cons_cons c d rest h, hsp]
    rw [hsp] at ih
    obtain ⟨hq0, hqs⟩ := List.forall_mem_cons.1 ih
    refine List.forall_mem_cons.2 ⟨?_, hqs⟩
    -- the first piece of `d :: rest` is empty or starts with `d`, and `c d` is no match
    cases q with
    | nil => rfl
    | cons e q' =>
      have hj := joinWith_splitAngle (d :: rest)
      rw [hsp] at hj
      have he : e = d := (List.cons.inj ((joinWith_head_append _ [e] q' qs).symm.trans hj)).1
      subst he
      rw [countAngle_cons_cons c e q' h]
      exact hq0

/-- `replace` puts the replacement into every gap -/
theorem replaceAngle_eq (r s : Str) : replaceAngle r s = joinWith r (splitAngle s) := by
  induction s using countAngle.induct with
  | case1 => rfl
  | case2 c => rfl
  | case3 c d rest h ih =>
    obtain ⟨rfl, rfl⟩ := h
    rw [splitAngle_match]
    obtain ⟨q, qs, hs⟩ := List.exists_cons_of_ne_nil (splitAngle_ne_nil rest)
    simp only [replaceAngle, and_self, if_true]
    rw [ih, hs]
    rfl
  | case4 c d rest h ih =>
    rw [splitAngle_cons_cons c d rest h, joinWith_consHead _ _ _ (splitAngle_ne_nil _), ← ih]
    simp only [replaceAngle, h, if_false]

/-- `replacen(.., 1)` fills the first gap and leaves the other `<>` in place -/
theorem replaceFirstAngle_eq (r s : Str) : replaceFirstAngle r s = interleave (splitAngle s) [r] := by
  induction s using countAngle.induct with
  | case1 => rfl
  | case2 c => rfl
  | case3 c d rest h ih =>
    obtain ⟨rfl, rfl⟩ := h
    rw [splitAngle_match]
    obtain ⟨q, qs, hs⟩ := List.exists_cons_of_ne_nil (splitAngle_ne_nil rest)
    simp only [replaceFirstAngle, and_self, if_true, hs, interleave, List.nil_append, interleave_no_names]
    rw [← hs, joinWith_splitAngle]
  | case4 c d rest h ih =>
    rw [splitAngle_cons_cons c d rest h, interleave_consHead _ _ _ (splitAngle_ne_nil _), ← ih]
    simp only [replaceFirstAngle, h, if_false]

theorem findAngle_none_iff (s : Str) : findAngle s = none ↔ countAngle s = 0 := by
  induction s using countAngle.induct with
  | case1 => exact ⟨fun _ => rfl, fun _ => rfl⟩
  | case2 c => exact ⟨fun _ => rfl, fun _ => rfl⟩
  | case3 c d rest h ih =>
    obtain ⟨rfl, rfl⟩ := h
    rw [countAngle_match]
    simp [findAngle]
  | case4 c d rest h ih =>
    rw [countAngle_cons_cons c d rest h, ← ih]
    simp only [findAngle, h, if_false]
    cases findAngle (d :: rest) <;> simp

theorem countAngle_of_presence_none (act : Str) (h : checkBetweenBraces act = .none) :
    countAngle act = 0 := by
  rw [← findAngle_none_iff]
  unfold checkBetweenBraces at h
  split at h
  · assumption
  · dsimp only at h
    split at h
    · cases h
    · split at h <;> cases h

theorem splitAngle_append (a s q : Str) (qs : List Str) (h0 : countAngle a = 0)
    (hb : a.getLast? = some '<' → s.head? ≠ some '>') (hs : splitAngle s = q :: qs) :
    splitAngle (a ++ s) = (a ++ q) :: qs := by
  induction a using countAngle.induct with
  | case1 => exact hs
  | case2 c =>
    cases s with
    | nil =>
      cases hs
      rfl
    | cons d s' =>
      have hcd : ¬(c = '<' ∧ d = '>') := fun h => hb (congrArg some h.1) (congrArg some h.2)
      show splitAngle (c :: d :: s') = _
      rw [splitAngle_cons_cons c d s' hcd, hs]
      rfl
  | case3 c d rest hc ih =>
    obtain ⟨rfl, rfl⟩ := hc
    exact absurd h0 (by rw [countAngle_match]; exact Nat.succ_ne_zero _)
  | case4 c d rest hc ih =>
    rw [countAngle_cons_cons c d rest hc] at h0
    show splitAngle (c :: d :: (rest ++ s)) = _
    rw [splitAngle_cons_cons c d _ hc]
    show consHead c (splitAngle (d :: rest ++ s)) = _
    rw [ih h0 (by rwa [List.getLast?_cons_cons] at hb)]
    rfl

theorem splitAngle_of_count_zero (p : Str) (h : countAngle p = 0) : splitAngle p = [p] := by
  have := splitAngle_append p [] [] [] h (fun _ => nofun) rfl
  rwa [List.append_nil] at this

theorem splitAngle_append_angle (p s : Str) (h : countAngle p = 0) :
    splitAngle (p ++ '<' :: '>' :: s) = p :: splitAngle s := by
  have := splitAngle_append p ('<' :: '>' :: s) [] (splitAngle s) h (fun _ => by simp)
    (by simp [splitAngle])
  rwa [List.append_nil] at this

theorem countAngle_append (a s : Str) (h0 : countAngle a = 0)
    (hb : a.getLast? = some '<' → s.head? ≠ some '>') : countAngle (a ++ s) = countAngle s := by
  obtain ⟨q, qs, hs⟩ := List.exists_cons_of_ne_nil (splitAngle_ne_nil s)
  apply Nat.add_right_cancel (m := 1)
  rw [countAngle_eq, countAngle_eq, splitAngle_append a s q qs h0 hb hs, hs]
  rfl

theorem splitAngle_joinWith (ps : List Str) (hne : ps ≠ []) (hps : ∀ p ∈ ps, countAngle p = 0) :
    splitAngle (joinWith ['<', '>'] ps) = ps := by
  induction ps with
  | nil => exact absurd rfl hne
  | cons p rest ih =>
    obtain ⟨hp, hrest⟩ := List.forall_mem_cons.1 hps
    cases rest with
    | nil => exact splitAngle_of_count_zero p hp
    | cons q rest =>
      simp only [joinWith, List.append_assoc, List.cons_append, List.nil_append]
      rw [splitAngle_append_angle _ _ hp, ih (List.cons_ne_nil _ _) hrest]

/-- names that cannot create or destroy a match: non-empty, no `<`, no `>` -/
def Clean (n : Str) : Prop := n ≠ [] ∧ '<' ∉ n ∧ '>' ∉ n

theorem countAngle_clean (n : Str) (h1 : '<' ∉ n) : countAngle n = 0 := by
  induction n using countAngle.induct with
  | case1 => rfl
  | case2 c => rfl
  | case3 c d rest hc ih => exact absurd (hc.1 ▸ List.mem_cons_self) h1
  | case4 c d rest hc ih =>
    rw [countAngle_cons_cons c d rest hc]
    exact ih (fun h => h1 (List.mem_cons_of_mem _ h))

/-- a clean name between two `<>`-free strings: still `<>`-free, whatever they end and start with -/
theorem countAngle_fill (p n q : Str) (hp : countAngle p = 0) (hn : Clean n) (hq : countAngle q = 0) :
    countAngle (p ++ n ++ q) = 0 := by
  obtain ⟨hne, hlt, hgt⟩ := hn
  rw [List.append_assoc, countAngle_append p _ hp, countAngle_append n q (countAngle_clean n hlt), hq]
  · intro h
    exact absurd (List.mem_of_getLast? h) hlt
  · intro _ h
    cases n with
    | nil => exact hne rfl
    | cons e n' =>
      simp only [List.cons_append, List.head?_cons, Option.some.injEq] at h
      exact hgt (h ▸ List.mem_cons_self)

/-- on a list of `<>`-free pieces the fold fills the gaps left to right, one name per gap: every
    step rescans from the start, finds the first *remaining* gap (the names are clean), and merges
    the two pieces around it into one -/
theorem replaceEach_joinWith (names : List Str) (hn : ∀ n ∈ names, Clean n) :
    ∀ ps : List Str, ps ≠ [] → (∀ p ∈ ps, countAngle p = 0) →
      replaceEach names (joinWith ['<', '>'] ps) = interleave ps names := by
  induction names with
  | nil => intro ps _ _; rw [interleave_no_names]; rfl
  | cons n ns ih =>
    intro ps hne hps
    obtain ⟨hn0, hns⟩ := List.forall_mem_cons.1 hn
    rw [replaceEach, replaceFirstAngle_eq, splitAngle_joinWith ps hne hps]
    match ps, hne, hps with
    | [p], _, hps => exact ih hns [p] (List.cons_ne_nil _ _) hps
    | p :: q :: rest, _, hps =>
      obtain ⟨hp, hqr⟩ := List.forall_mem_cons.1 hps
      obtain ⟨hq, hr⟩ := List.forall_mem_cons.1 hqr
      have h := ih hns ((p ++ n ++ q) :: rest) (List.cons_ne_nil _ _)
        (List.forall_mem_cons.2 ⟨countAngle_fill p n q hp hn0 hq, hr⟩)
      rw [joinWith_head_append, interleave_head_append] at h
      simpa only [interleave, interleave_no_names] using h

theorem replaceEach_eq (names : List Str) (hn : ∀ n ∈ names, Clean n) (s : Str) :
    replaceEach names s = interleave (splitAngle s) names := by
  have := replaceEach_joinWith names hn (splitAngle s) (splitAngle_ne_nil s) (countAngle_piece s)
  rwa [joinWith_splitAngle] at this

end LalrpopModel.Lower
