import LalrpopModel.Lemmas.LRPrefixBasic
import LalrpopModel.Lemmas.LRSound
/-!
Valid-prefix properties (C04/C05): the viable-prefix invariant.

`closure0` computes a subset of the LR(0) closure of its kernel (`InClosure`, `mem_closure0` in
`Lemmas/LRSoundValid.lean`), so `checkCores` justifies the cores of every state along every
transition (`Just`). Hence every core item `(p,d)` of the top state of a `Path` is valid for the
path's symbols `γ`: `γ = γ' ++ rhs_p[0..d)` with `γ' ++ rhs_p ++ δ` a sentential form whose tail `δ`
is productive, by V5 (`ProdOK`). So `γ` is a viable prefix, and the yields of derivation trees for
its symbols, as on the symbol stack, are a prefix of a sentence.
-/
namespace LalrpopModel.LR

theorem getD_map_range {f : Nat → Bool} {n B : Nat} (h : ((List.range n).map f).getD B false = true) :
    f B = true := by
  rw [List.getD_eq_getElem?_getD, List.getElem?_map] at h
  by_cases hB : B < n
  · rwa [List.getElem?_range hB] at h
  · rw [List.getElem?_eq_none (List.length_range ▸ Nat.le_of_not_lt hB)] at h
    cases h

/-- `l` is a list of derivation trees (no error nodes) whose roots are `Xs` -/
inductive TL (G : Grammar) : List Tree → List Sym → Prop
  | nil : TL G [] []
  | cons {t : Tree} {ts : List Tree} {X : Sym} {Xs : List Sym} :
      Tree.WF G none t → t.root G none = some X → TL G ts Xs → TL G (t :: ts) (X :: Xs)

/-- the tokens under a list of trees -/
def yieldL : List Tree → List Tok
  | [] => []
  | t :: ts => t.yield ++ yieldL ts

theorem yieldL_append (a b : List Tree) : yieldL (a ++ b) = yieldL a ++ yieldL b := by
  induction a with
  | nil => rfl
  | cons t a ih => simp [yieldL, ih]

theorem yield_ofList (l : List Tree) : (Forest.ofList l).yield = yieldL l := by
  induction l with
  | nil => rfl
  | cons t l ih => simp [Forest.ofList, Forest.yield, yieldL, ih]

variable {G : Grammar}

theorem TL.append {l₁ l₂ : List Tree} {α β : List Sym} (h₁ : TL G l₁ α) (h₂ : TL G l₂ β) :
    TL G (l₁ ++ l₂) (α ++ β) := by
  induction h₁ with
  | nil => simpa using h₂
  | cons hw hr _ ih => exact .cons hw hr ih

theorem TL.split {l : List Tree} (α : List Sym) {β : List Sym} (h : TL G l (α ++ β)) :
    ∃ l₁ l₂, l = l₁ ++ l₂ ∧ TL G l₁ α ∧ TL G l₂ β := by
  induction α generalizing l with
  | nil => exact ⟨[], l, rfl, .nil, h⟩
  | cons X α ih =>
    cases h with
    | cons hw hr ht =>
      obtain ⟨l₁, l₂, rfl, h₁, h₂⟩ := ih ht
      exact ⟨_ :: l₁, l₂, rfl, .cons hw hr h₁, h₂⟩

theorem TL.forest {l : List Tree} {Xs : List Sym} (h : TL G l Xs) : Forest.WF G none (Forest.ofList l) Xs := by
  induction h with
  | nil => exact .nil
  | cons hw hr _ ih => exact .cons _ _ _ _ hw hr ih

theorem TL.node {l : List Tree} {p : Nat} {pr : Production} (hp : G.prods[p]? = some pr) (h : TL G l pr.rhs) :
    TL G [.node p 0 0 (Forest.ofList l)] [Sym.n pr.lhs] :=
  .cons (.node p 0 0 pr _ hp h.forest) (by rw [Tree.root, hp]; rfl) .nil

theorem TL.allK {l : List Tree} {Xs : List Sym} (h : TL G l Xs) : ∀ a ∈ yieldL l, ∃ k, a.kind = some k := by
  rw [← yield_ofList]
  exact Forest.wf_yield_kind _ h.forest

/-- the trees on a symbol stack (top first), bottom first -/
theorem TL.of_treesOK {syms : List SymTriple} {Xs : List Sym} (h : TreesOK G none syms Xs) :
    TL G (syms.reverse.map (·.2.1)) Xs.reverse := by
  induction h with
  | nil => exact .nil
  | cons hw hr _ ih =>
    simp only [List.reverse_cons, List.map_append, List.map_cons, List.map_nil]
    exact ih.append (.cons hw hr .nil)

/-- sentential forms of `S` -/
inductive SF (G : Grammar) (S : NT) : List Sym → Prop
  | start : SF G S [Sym.n S]
  | step (α β : List Sym) (p : Nat) (pr : Production) :
      SF G S (α ++ Sym.n pr.lhs :: β) → G.prods[p]? = some pr → SF G S (α ++ pr.rhs ++ β)

/-- derivation trees for the symbols of a sentential form assemble into a derivation tree of `S`
    with the same tokens -/
theorem SF.tree {S : NT} {α : List Sym} (h : SF G S α) :
    ∀ l, TL G l α → ∃ t, Tree.WF G none t ∧ t.root G none = some (Sym.n S) ∧ t.yield = yieldL l := by
  induction h with
  | start =>
    intro l hl
    cases hl with
    | cons hw hr ht =>
      cases ht
      exact ⟨_, hw, hr, by simp [yieldL]⟩
  | step α β p pr _ hp ih =>
    intro l hl
    rw [List.append_assoc] at hl
    obtain ⟨l₁, l₂₃, rfl, h₁, h₂₃⟩ := TL.split α hl
    obtain ⟨l₂, l₃, rfl, h₂, h₃⟩ := TL.split pr.rhs h₂₃
    obtain ⟨t, hw, hr, hy⟩ := ih _ (h₁.append ((h₂.node hp).append h₃))
    refine ⟨t, hw, hr, ?_⟩
    rw [hy]
    simp [yieldL_append, yieldL, Tree.yield, yield_ofList]

/-- `B` derives some terminal string -/
def Productive (G : Grammar) (B : NT) : Prop := ∃ t, Tree.WF G none t ∧ t.root G none = some (Sym.n B)

/-- terminals are productive; a nonterminal is if it derives a terminal string -/
def PS (G : Grammar) : Sym → Prop
  | .t _ => True
  | .n B => Productive G B

theorem PS.tree {X : Sym} (h : PS G X) : ∃ t, Tree.WF G none t ∧ t.root G none = some X := by
  cases X with
  | t a => exact ⟨.leaf (mkTok a), .leaf _ a rfl, rfl⟩
  | n B => exact h

theorem exists_TL (δ : List Sym) (h : ∀ X ∈ δ, PS G X) : ∃ l, TL G l δ := by
  induction δ with
  | nil => exact ⟨[], .nil⟩
  | cons X δ ih =>
    obtain ⟨t, hw, hr⟩ := (h X List.mem_cons_self).tree
    obtain ⟨l, hl⟩ := ih fun Y hY => h Y (List.mem_cons_of_mem _ hY)
    exact ⟨t :: l, .cons hw hr hl⟩

theorem Productive.of_prod {p : Nat} {pr : Production} (hp : G.prods[p]? = some pr)
    (h : ∀ X ∈ pr.rhs, PS G X) : Productive G pr.lhs := by
  obtain ⟨l, hl⟩ := exists_TL pr.rhs h
  cases hl.node hp with
  | cons hw hr _ => exact ⟨_, hw, hr⟩

/-! ### what V5 establishes -/

structure ProdOK (G : Grammar) (A : Automaton) (R : NT → Prop) : Prop where
  start : ∀ sp : Production, G.prods[G.startProd]? = some sp → R sp.lhs
  closed : ∀ (p : Nat) (pr : Production), G.prods[p]? = some pr → R pr.lhs → ∀ B, Sym.n B ∈ pr.rhs → R B ∧ Productive G B
  nonempty : ∀ s, s < A.states.length → A.coresOf s ≠ []

theorem ProdOK.ps_tail {A : Automaton} {R : NT → Prop} (P : ProdOK G A R) {p : Nat} {pr : Production}
    (hp : G.prods[p]? = some pr) (hR : R pr.lhs) (k : Nat) {δ : List Sym} (hδ : ∀ X ∈ δ, PS G X) :
    ∀ X ∈ pr.rhs.drop k ++ δ, PS G X := by
  intro X hX
  rcases List.mem_append.mp hX with hX | hX
  · cases X with
    | t a => trivial
    | n B => exact (P.closed p pr hp hR B (List.mem_of_mem_drop hX)).2
  · exact hδ X hX

theorem productiveIter_sound (k : Nat) (P : List Bool)
    (h : ∀ B, P.getD B false = true → Productive G B) :
    ∀ B, (productiveIter G k P).getD B false = true → Productive G B := by
  induction k generalizing P with
  | zero => exact h
  | succ k ih =>
    apply ih
    intro B hB
    have := getD_map_range hB
    simp only [Bool.or_eq_true, List.any_eq_true, Bool.and_eq_true, beq_iff_eq, List.all_eq_true] at this
    rcases this with h1 | ⟨pr, hmem, hl, hall⟩
    · exact h B h1
    · obtain ⟨p, hp⟩ := List.getElem?_of_mem hmem
      subst hl
      apply Productive.of_prod hp
      intro X hX
      have := hall X hX
      cases X with
      | t a => trivial
      | n C => exact h C this

theorem productiveSet_sound (B : NT) (h : (productiveSet G).getD B false = true) : Productive G B := by
  apply productiveIter_sound _ _ _ B h
  intro C hC
  rw [List.getD_eq_getElem?_getD, List.getElem?_replicate] at hC
  split at hC <;> cases hC

theorem prodOK_of_check {A : Automaton} (h : checkProductive G A = true) :
    ProdOK G A (fun B => (reachSet G).getD B false = true) := by
  simp only [checkProductive, Bool.and_eq_true, List.all_eq_true, Bool.or_eq_true, Bool.not_eq_true',
    List.isEmpty_eq_false_iff] at h
  obtain ⟨⟨h1, h2⟩, h3⟩ := h
  refine ⟨?_, ?_, ?_⟩
  · intro sp hsp
    rw [hsp] at h1
    exact h1
  · intro p pr hp hR B hB
    rcases h2 pr (List.mem_of_getElem? hp) with hf | hall
    · rw [hR] at hf; cases hf
    · have := hall _ hB
      simp only [Bool.and_eq_true] at this
      exact ⟨this.1, productiveSet_sound B this.2⟩
  · intro s hs
    have hst : A.states[s]? = some A.states[s] := List.getElem?_eq_getElem hs
    rw [coresOf_eq hst]
    exact h3 _ (List.getElem_mem hs)

/-- the cores of every state are justified: those of state 0 by the closure of the start item,
    those of a successor by the closure of the advanced kernel -/
structure Just (G : Grammar) (A : Automaton) : Prop where
  cores0 : ∀ i, i ∈ A.coresOf 0 → InClosure G (· = (G.startProd, 0)) i
  trans : ∀ s X s', A.trans s X = some s' → ∀ i, i ∈ A.coresOf s' →
    InClosure G (· ∈ advance G (A.coresOf s) X) i

theorem just_of_checkCores {T : Tables} {A : Automaton} (hc : checkCores G T A = true) : Just G A := by
  refine ⟨?_, ?_⟩
  · intro i hi
    rw [checkCores, Bool.and_eq_true] at hc
    refine (mem_closure0 (subsetOf_mem hc.1 hi)).trans ?_
    intro j hj
    exact .base _ (List.mem_singleton.mp hj)
  · intro s X s' ht i hi
    refine mem_closure0 (subsetOf_mem ?_ hi)
    cases X with
    | t a =>
      obtain ⟨st, hst, hl⟩ := Option.bind_eq_some_iff.mp ht
      rw [coresOf_eq hst]
      exact ((checkCores_state hc hst).1 a s' (lookupAssoc_mem hl)).2.2
    | n B =>
      obtain ⟨st, hst, hl⟩ := Option.bind_eq_some_iff.mp ht
      rw [coresOf_eq hst]
      exact ((checkCores_state hc hst).2.1 B s' (lookupAssoc_mem hl)).2.2

/-- item `(p,d)` is valid for the stack contents `γ` (bottom first), with a productive completion -/
def ValidFor (G : Grammar) (S : NT) (R : NT → Prop) (γ : List Sym) (i : Item0) : Prop :=
  ∃ γ' δ pr, G.prods[i.1]? = some pr ∧ i.2 ≤ pr.rhs.length ∧ γ = γ' ++ pr.rhs.take i.2 ∧
    SF G S (γ' ++ pr.rhs ++ δ) ∧ (∀ X ∈ δ, PS G X) ∧ R pr.lhs

/-- `γ` is a viable prefix: it extends to a sentential form by productive symbols -/
def Viable (G : Grammar) (S : NT) (γ : List Sym) : Prop := ∃ δ, SF G S (γ ++ δ) ∧ ∀ X ∈ δ, PS G X

theorem Viable.unreduce {S : NT} {γ β : List Sym} {p : Nat} {pr : Production} (hp : G.prods[p]? = some pr)
    (h : Viable G S (γ ++ Sym.n pr.lhs :: β)) : Viable G S (γ ++ pr.rhs ++ β) := by
  obtain ⟨δ, hsf, hδ⟩ := h
  refine ⟨δ, ?_, hδ⟩
  rw [List.append_assoc, List.cons_append] at hsf
  rw [List.append_assoc]
  exact SF.step γ (β ++ δ) p pr hsf hp

section
variable {A : Automaton} {S : NT} {R : NT → Prop}

theorem closure_valid (P : ProdOK G A R) {K : Item0 → Prop} {γ : List Sym}
    (hK : ∀ i, K i → ValidFor G S R γ i) {i : Item0} (h : InClosure G K i) : ValidFor G S R γ i := by
  induction h with
  | base i hi => exact hK i hi
  | step p d q B qr _ hs hq hl ih =>
    obtain ⟨γ', δ, pr, hp, hle, hγ, hsf, hδ, hR⟩ := ih
    have hB := symAt_some hp hs
    obtain ⟨hd, hBd⟩ := List.getElem?_eq_some_iff.mp hB
    have hmem : Sym.n B ∈ pr.rhs := List.mem_of_getElem? hB
    have hRB := (P.closed p pr hp hR B hmem).1
    refine ⟨γ, pr.rhs.drop (d + 1) ++ δ, qr, hq, Nat.zero_le _, (List.append_nil γ).symm, ?_,
      P.ps_tail hp hR _ hδ, hl ▸ hRB⟩
    · refine SF.step γ _ q qr ?_ hq
      -- `γ ++ Sym.n B :: (pr.rhs.drop (d + 1) ++ δ)` is `γ' ++ pr.rhs ++ δ` split at the dot
      rw [hγ, hl, ← hBd, List.append_assoc, ← List.cons_append, ← List.drop_eq_getElem_cons hd,
        ← List.append_assoc (pr.rhs.take d), List.take_append_drop, ← List.append_assoc]
      exact hsf

theorem start_valid (J : Just G A) (P : ProdOK G A R) (hS : G.startSym = some S) :
    ∀ i, i ∈ A.coresOf 0 → ValidFor G S R [] i := by
  intro i hi
  refine closure_valid P ?_ (J.cores0 i hi)
  intro j hj
  subst hj
  obtain ⟨sp, hsp, hr⟩ := startSym_spec hS
  exact ⟨[], [], sp, hsp, Nat.zero_le _, by simp, by simpa [hr] using SF.start, by simp, P.start sp hsp⟩

theorem push_valid (J : Just G A) (P : ProdOK G A R) {s s' : Nat} {X : Sym} {γ : List Sym}
    (hs : ∀ i, i ∈ A.coresOf s → ValidFor G S R γ i) (ht : A.trans s X = some s') :
    ∀ i, i ∈ A.coresOf s' → ValidFor G S R (γ ++ [X]) i := by
  intro i hi
  refine closure_valid P ?_ (J.trans s X s' ht i hi)
  intro j hj
  obtain ⟨d', hd, hc, hX⟩ := mem_advance hj
  obtain ⟨γ', δ, pr, hp, hle, hγ, hsf, hδ, hR⟩ := hs _ hc
  have hXd := symAt_some hp hX
  refine ⟨γ', δ, pr, hp, hd ▸ (List.getElem?_eq_some_iff.mp hXd).1, ?_, hsf, hδ, hR⟩
  rw [hd, hγ, List.append_assoc, List.take_add_one, hXd]
  rfl

/-- every core item of the top state of a path is valid for the symbols of the path -/
theorem path_valid (J : Just G A) (P : ProdOK G A R) (hS : G.startSym = some S) {st : List Nat}
    {Xs : List Sym} (h : Path A st Xs) :
    ∀ s ss, st = s :: ss → ∀ i, i ∈ A.coresOf s → ValidFor G S R Xs.reverse i := by
  induction h with
  | base =>
    intro s ss he i hi
    cases he
    exact start_valid J P hS i hi
  | push h1 ht ih =>
    intro s ss he i hi
    cases he
    rw [List.reverse_cons]
    exact push_valid J P (ih _ _ rfl) ht i hi

theorem viable_of_valid (P : ProdOK G A R) {γ : List Sym} {i : Item0} (h : ValidFor G S R γ i) :
    Viable G S γ := by
  obtain ⟨γ', δ, pr, hp, hle, hγ, hsf, hδ, hR⟩ := h
  refine ⟨pr.rhs.drop i.2 ++ δ, ?_, P.ps_tail hp hR _ hδ⟩
  rw [hγ, List.append_assoc, ← List.append_assoc (pr.rhs.take i.2), List.take_append_drop, ← List.append_assoc]
  exact hsf

theorem path_viable {T : Tables} (Sd : Sound G T A) (J : Just G A) (P : ProdOK G A R)
    (hS : G.startSym = some S) {st : List Nat} {Xs : List Sym} (h : Path A st Xs) :
    Viable G S Xs.reverse := by
  cases st with
  | nil => exact absurd rfl h.ne_nil
  | cons s ss =>
    obtain ⟨i, hi⟩ := List.exists_mem_of_ne_nil _ (P.nonempty s (h.top_lt Sd))
    exact viable_of_valid P (path_valid J P hS h s ss rfl i hi)

theorem kindsPrefix_of_tree {t : Tree} {pre z : List Tok} (hw : Tree.WF G none t)
    (hr : t.root G none = some (Sym.n S)) (hy : t.yield = pre ++ z) : KindsPrefix G S pre := by
  obtain ⟨w, hwk⟩ := exists_kinds (fun a : Tok => a.kind) t.yield (Tree.wf_yield_kind t hw)
  have hsplit := hwk
  rw [hy, List.map_append, eq_comm, List.map_eq_append_iff] at hsplit
  obtain ⟨u, v, rfl, hu, -⟩ := hsplit
  exact ⟨u, hu.symm, v, t, hw, hr, hwk⟩

/-- a symbol stack whose roots are a viable prefix holds a prefix of a sentence: complete the
    trees on the stack by trees for the productive rest of the sentential form -/
theorem viable_stack {Xs : List Sym} (hv : Viable G S Xs.reverse) {symbols : List SymTriple}
    (ht : TreesOK G none symbols Xs) : KindsPrefix G S (stackYield symbols) := by
  obtain ⟨δ, hsf, hδ⟩ := hv
  obtain ⟨l', hl'⟩ := exists_TL δ hδ
  obtain ⟨t, hw, hr, hy⟩ := hsf.tree _ ((TL.of_treesOK ht).append hl')
  rw [yieldL_append, ← yield_ofList, yield_ofList_reverse] at hy
  exact kindsPrefix_of_tree hw hr hy

end

end LalrpopModel.LR
