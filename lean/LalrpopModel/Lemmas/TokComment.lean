import LalrpopModel.Lemmas.TokBasic
/-! `block_comment`'s four-state machine computes rustc's nested block comment scan. -/
namespace LalrpopModel.Tok

/-- rustc's scan of a block comment body (`rustc_lexer::Cursor::block_comment`): `d` = number of
    enclosing comments still open besides the current one; the text starts after the opening `/*`;
    result = the text after the matching `*/`, `none` if unterminated. -/
def refComment : Nat → List Char → Option (List Char)
  | _, [] => none
  | _, [_] => none
  | d, c :: c2 :: r =>
    if c = '/' ∧ c2 = '*' then refComment (d + 1) r
    else if c = '*' ∧ c2 = '/' then (if d = 0 then some r else refComment (d - 1) r)
    else refComment d (c2 :: r)

/-- what `block_comment`'s `take_until(end_of_comment)` + `bump` leaves, from closure state `(d, s)` -/
def machine (d : Nat) (s : CState) (pos : Nat) (xs : List Char) : Option (List Char) :=
  let t := takeUntilS commentStep (d, s) pos xs
  if t.1 then some t.2.2.bump.rest else none

theorem machine_cons (d : Nat) (s : CState) (pos : Nat) (x : Char) (xs : List Char) :
    machine d s pos (x :: xs) =
      if (commentStep (d, s) x).2 then some xs
      else machine (commentStep (d, s) x).1.1 (commentStep (d, s) x).1.2 (pos + x.utf8Size) xs := by
  rw [machine, takeUntilS]
  -- both sides branch on the flag the closure returns
  generalize commentStep (d, s) x = t
  rcases t with ⟨_, _ | _⟩ <;> rfl

theorem refComment_other (d : Nat) (c : Char) (r : List Char) (h1 : c ≠ '/') (h2 : c ≠ '*') :
    refComment d (c :: r) = refComment d r := by
  cases r with
  | nil => simp [refComment]
  | cons c2 r => simp [refComment, h1, h2]

theorem refComment_slash_cons (d : Nat) (c : Char) (r : List Char) (h : c ≠ '*') :
    refComment d ('/' :: c :: r) = refComment d (c :: r) := by
  simp [refComment, h]

theorem refComment_star_cons (d : Nat) (c : Char) (r : List Char) (h : c ≠ '/') :
    refComment d ('*' :: c :: r) = refComment d (c :: r) := by
  simp [refComment, h]

/-- what the machine has read of a possible `/*` or `*/`, and rustc's two-character scan still has in
    front of it -/
def CState.pend : CState → List Char
  | .slash => ['/']
  | .star => ['*']
  | _ => []

theorem machine_pend (xs : List Char) : ∀ (d pos : Nat) (s : CState), s ≠ .complete →
    machine (d + 1) s pos xs = refComment d (s.pend ++ xs) := by
  induction xs with
  | nil =>
    intro d pos s _
    cases s <;> simp [machine, takeUntilS, refComment, CState.pend]
  | cons x xs ih =>
    intro d pos s hs
    rw [machine_cons]
    -- The state and depth the machine moves to are the arguments of `ih`. A `*` becomes pending, or after `/` opens
    -- a level; a `/` becomes pending, or after `*` closes a level (the outermost: the scan ends); any other
    -- character clears what was pending.
    by_cases hst : x = '*'
    · subst hst
      cases s with
      | initial => simpa [commentStep, CState.pend] using ih d _ .star (by decide)
      | slash => simpa [commentStep, CState.pend, refComment] using ih (d + 1) _ .initial (by decide)
      | star =>
        rw [CState.pend, List.singleton_append, refComment_star_cons _ _ _ (by decide)]
        simpa [commentStep, CState.pend] using ih d _ .star (by decide)
      | complete => exact absurd rfl hs
    · by_cases hsl : x = '/'
      · subst hsl
        cases s with
        | initial => simpa [commentStep, CState.pend] using ih d _ .slash (by decide)
        | slash =>
          rw [CState.pend, List.singleton_append, refComment_slash_cons _ _ _ (by decide)]
          simpa [commentStep, CState.pend] using ih d _ .slash (by decide)
        | star =>
          cases d with
          | zero => simp [commentStep, CState.pend, refComment]
          | succ d => simpa [commentStep, CState.pend, refComment] using ih d _ .initial (by decide)
        | complete => exact absurd rfl hs
      · have := ih d (pos + x.utf8Size) .initial (by decide)
        cases s with
        | initial => simpa [commentStep, CState.pend, refComment_other _ _ _ hsl hst, hst, hsl] using this
        | slash =>
          simpa [commentStep, CState.pend, refComment_slash_cons _ _ _ hst, refComment_other _ _ _ hsl hst, hst, hsl]
            using this
        | star =>
          simpa [commentStep, CState.pend, refComment_star_cons _ _ _ hsl, refComment_other _ _ _ hsl hst, hst, hsl]
            using this
        | complete => exact absurd rfl hs

/-- **`block_comment` = rustc's nested comment scan.**  Entered after `/*`, the four-state machine of
    `Tokenizer::block_comment` succeeds exactly when rustc's depth-counting scan finds the matching
    `*/`, leaves exactly the text after it, and advances the position by the bytes consumed. -/
theorem block_comment_matches_rustc (idx0 pos : Nat) (xs : List Char) :
    blockComment idx0 ⟨pos, xs⟩ =
      match refComment 0 xs with
      | some r => .ok ⟨pos + utf8Len xs - utf8Len r, r⟩
      | none => err .unterminatedBlockComment idx0 := by
  have hm : machine 1 .initial pos xs = refComment 0 xs := machine_pend xs 0 pos .initial (by decide)
  obtain ⟨h1, h2, h3⟩ := takeUntilS_inv commentStep (1, CState.initial) pos xs
  rw [blockComment, ← hm, machine]
  generalize takeUntilS commentStep (1, CState.initial) pos xs = t at h1 h2 h3
  obtain ⟨b, pre, p1, r1⟩ := t
  cases b with
  | false => rfl
  | true =>
    cases r1 with
    | nil => exact absurd rfl (h3 rfl)
    | cons y ys =>
      -- `pre` was consumed and the closing `/` is bumped: `ys` is left
      simp only at h1 h2
      subst h1 h2
      simp only [St.bump, if_true, utf8Len_append, utf8Len_cons, ← Nat.add_assoc, Nat.add_sub_cancel]

/-- the body of a block comment as rustc delimits it: scanning `body*/…` closes exactly at that `*/` -/
def commentOK (body : List Char) : Prop := ∀ rest, refComment 0 (body ++ '*' :: '/' :: rest) = some rest

theorem blockComment_scan (idx0 pos : Nat) (body rest : List Char) (h : commentOK body) :
    blockComment idx0 ⟨pos, body ++ '*' :: '/' :: rest⟩ = .ok ⟨pos + utf8Len (body ++ ['*', '/']), rest⟩ := by
  have e : body ++ '*' :: '/' :: rest = (body ++ ['*', '/']) ++ rest := by simp
  rw [block_comment_matches_rustc, h rest, e, utf8Len_append]
  simp only [← Nat.add_assoc, Nat.add_sub_cancel]

/-- a `//` comment: entered at its second `/`, `take_until('\n')` stops in front of the newline -/
theorem lineComment_scan (pos : Nat) (body rest : List Char) (h : ∀ x ∈ body, x ≠ '\n') :
    (takeUntil (· == '\n') pos ('/' :: (body ++ '\n' :: rest))).2.2 = ⟨pos + utf8Len ('/' :: body), '\n' :: rest⟩ := by
  have hpre : ∀ x ∈ '/' :: body, (x == '\n') = false := by
    intro x hx
    rcases List.mem_cons.1 hx with rfl | hx
    · decide
    · simpa using h x hx
  rw [← List.cons_append, takeUntil_stop _ _ _ _ _ hpre (by decide)]

end LalrpopModel.Tok
