import LalrpopModel.Model.TyInfer
/-!
Invariants of the type-inference model (C19).

Every function of the inferencer threads the state.  `Step s s'` is what any of them may do to it:
the table only gains entries, the stack is restored, the ghost log only grows, and `Good` (the one
invariant of the reachable states) is kept.  `RecOK` adds what a call of `nonterminal_type` returns.
Here the functions below `ntType` are proved against these for an arbitrary recursive call `rec`.
-/
namespace LalrpopModel.TyInfer

section
variable {Ty : Type}

/-- `m'` has every entry of `m` -/
def Ext (m m' : List (String × Ty)) : Prop := ∀ k v, m.lookup k = some v → m'.lookup k = some v

theorem lookup_cons_ne {id k : String} (ty : Ty) (m : List (String × Ty)) (h : k ≠ id) :
    ((id, ty) :: m).lookup k = m.lookup k := by
  rw [List.lookup_cons, beq_false_of_ne h]

theorem Ext.refl (m : List (String × Ty)) : Ext m m := fun _ _ h => h

theorem Ext.trans {a b c : List (String × Ty)} (h1 : Ext a b) (h2 : Ext b c) : Ext a c :=
  fun k v h => h2 k v (h1 k v h)

theorem Ext.cons {id : String} (ty : Ty) {m : List (String × Ty)} (h : m.lookup id = none) :
    Ext m ((id, ty) :: m) := by
  intro k v hk
  by_cases e : k = id
  · rw [e, h] at hk; cases hk
  · rw [lookup_cons_ne ty m e]; exact hk

end

section
variable {Tpl : Type} {G : Grammar Tpl} {id : String} {nt : Nt Tpl}

theorem find_name (h : G.find id = some nt) : nt.name = id := by
  have := List.find?_some h
  exact eq_of_beq this

theorem find_mem (h : G.find id = some nt) : nt ∈ G.nts :=
  List.mem_of_find?_eq_some h

end

variable {Ty Tpl : Type} {env : Env Ty Tpl} {G : Grammar Tpl}

variable (env) in
theorem symTysP_cons_ok {m : List (String × Ty)} {x : Sym} {xs : List Sym} {ts : List Ty} :
    symTysP env m (x :: xs) = .ok ts ↔
      ∃ t ts', symTyP env m x = .ok t ∧ symTysP env m xs = .ok ts' ∧ ts = t :: ts' := by
  rw [symTysP]
  constructor
  · intro h
    split at h
    · cases h
    · next t h1 =>
      split at h
      · cases h
      · next ts' h2 => cases h; exact ⟨t, ts', h1, h2, rfl⟩
  · rintro ⟨t, ts', h1, h2, rfl⟩
    rw [h1, h2]

/-- `alternative_type` and its specification differ only in how the selected symbols are typed:
    both are the same constant, or both lift the types of the same symbols -/
theorem altType_altTyP_cases (env : Env Ty Tpl) (alt : Alt) :
    (∃ r : Except Err Ty,
      (∀ (rec : String → St Ty → Res Ty Ty) s, altType env rec alt s = (r, s)) ∧
      ∀ m, altTyP env m alt = r) ∨
    ∃ syms,
      (∀ (rec : String → St Ty → Res Ty Ty) s, altType env rec alt s =
        match symTypes env rec syms s with
        | (.error e, s1) => (.error e, s1)
        | (.ok ts, s1) => (.ok (maybeTuple env ts), s1)) ∧
      ∀ m, altTyP env m alt =
        match symTysP env m syms with
        | .error e => .error e
        | .ok ts => .ok (maybeTuple env ts) := by
  unfold altType altTyP
  cases alt.act with
  | user => exact .inl ⟨_, fun _ _ => rfl, fun _ => rfl⟩
  | lookahead => cases env.locTy <;> exact .inl ⟨_, fun _ _ => rfl, fun _ => rfl⟩
  | lookbehind => cases env.locTy <;> exact .inl ⟨_, fun _ _ => rfl, fun _ => rfl⟩
  | default =>
    cases analyzeExpr alt.syms with
    | named => exact .inl ⟨_, fun _ _ => rfl, fun _ => rfl⟩
    | anon syms => exact .inr ⟨syms, fun _ _ => rfl, fun _ => rfl⟩

theorem symTyP_nt {m : List (String × Ty)} {n : String} {t : Ty} :
    symTyP env m (.nt n) = .ok t ↔ m.lookup n = some t := by
  rw [symTyP]
  cases m.lookup n with
  | none => exact ⟨nofun, nofun⟩
  | some v => exact ⟨fun h => congrArg some (Except.ok.inj h), fun h => congrArg Except.ok (Option.some.inj h)⟩

theorem altTyP_user {alt : Alt} (h : alt.act = .user) (m : List (String × Ty)) :
    altTyP env m alt = .error .customAction := by
  unfold altTyP
  rw [h]

section Mono
variable {m m' : List (String × Ty)} (he : Ext m m')
include he

theorem symTyP_mono {x : Sym} {t : Ty} (hx : symTyP env m x = .ok t) : symTyP env m' x = .ok t := by
  induction x with
  | nt n => exact symTyP_nt.mpr (he n t (symTyP_nt.mp hx))
  | choose x ih => exact ih hx
  | named x ih => exact ih hx
  | tupled p x ih => exact ih hx
  | term u => exact hx
  | error => exact hx

theorem symTysP_mono {xs : List Sym} {ts : List Ty} (hx : symTysP env m xs = .ok ts) :
    symTysP env m' xs = .ok ts := by
  induction xs generalizing ts with
  | nil => exact hx
  | cons x xs ih =>
    obtain ⟨t, ts', h1, h2, rfl⟩ := (symTysP_cons_ok env).mp hx
    exact (symTysP_cons_ok env).mpr ⟨t, ts', symTyP_mono he h1, ih h2, rfl⟩

theorem altTyP_mono {alt : Alt} {t : Ty} (hx : altTyP env m alt = .ok t) :
    altTyP env m' alt = .ok t := by
  rcases altType_altTyP_cases env alt with ⟨r, _, h2⟩ | ⟨syms, _, h2⟩
  · rw [h2] at hx ⊢; exact hx
  · rw [h2] at hx ⊢
    split at hx
    · cases hx
    · next ts h1 => rw [symTysP_mono he h1]; exact hx

end Mono

variable (env G) in
/-- what holds of every state the inferencer reaches: every key of the table is a nonterminal of
    the grammar; and an un-annotated nonterminal that has a type, and none of whose alternatives is
    in the log of swallowed errors, has that type in each alternative without user action -/
structure Good (s : St Ty) : Prop where
  keys : ∀ k v, s.memo.lookup k = some v → (G.find k).isSome = true
  agree : ∀ nt : Nt Tpl, G.find nt.name = some nt → nt.decl = none →
    ∀ ty, s.memo.lookup nt.name = some ty → (∀ i, (nt.name, i) ∉ s.suppressed) →
    ∀ alt ∈ nt.alts, alt.act ≠ .user → altTyP env s.memo alt = .ok ty

theorem Good.init : Good env G (St.init : St Ty) :=
  ⟨fun _ _ h => (by cases h), fun _ _ _ _ h => (by cases h)⟩

variable (env G) in
structure Step (s s' : St Ty) : Prop where
  ext : Ext s.memo s'.memo
  stack : s'.stack = s.stack
  supp : ∀ x ∈ s.suppressed, x ∈ s'.suppressed
  good : Good env G s → Good env G s'

theorem Step.refl (s : St Ty) : Step env G s s := ⟨Ext.refl _, rfl, fun _ h => h, fun h => h⟩

theorem Step.trans {a b c : St Ty} (h1 : Step env G a b) (h2 : Step env G b c) : Step env G a c :=
  ⟨h1.ext.trans h2.ext, h2.stack.trans h1.stack, fun x h => h2.supp x (h1.supp x h),
   fun h => h2.good (h1.good h)⟩

/-- logging a swallowed error: fewer nonterminals are claimed to agree -/
theorem Step.suppress (s : St Ty) (x : String × Nat) :
    Step env G s { s with suppressed := x :: s.suppressed } :=
  ⟨Ext.refl _, rfl, fun _ h => List.mem_cons_of_mem x h, fun hg =>
    ⟨hg.keys, fun nt hf hd ty hl h0 =>
      hg.agree nt hf hd ty hl fun i hm => h0 i (List.mem_cons_of_mem x hm)⟩⟩

/-- nothing but `stack` looks at the stack: a step made under a pushed name is, once the name is
    popped, a step of the state before the push -/
theorem Step.pop {s s1 : St Ty} {stk : List String} (h : Step env G { s with stack := stk } s1) :
    Step env G s { s1 with stack := s.stack } :=
  ⟨h.ext, rfl, h.supp, fun hg =>
    have hg1 := h.good ⟨hg.keys, hg.agree⟩
    ⟨hg1.keys, hg1.agree⟩⟩

/-- `add_type`: the new entry must agree with the alternatives of its nonterminal; the entries
    already there keep agreeing because the specification is monotone -/
theorem Step.insert {s : St Ty} {nt : Nt Tpl} {ty : Ty} (hf : G.find nt.name = some nt)
    (hnone : s.memo.lookup nt.name = none)
    (hnew : (∀ i, (nt.name, i) ∉ s.suppressed) → nt.decl = none →
      ∀ alt ∈ nt.alts, alt.act ≠ .user → altTyP env s.memo alt = .ok ty) :
    Step env G s { s with memo := (nt.name, ty) :: s.memo } := by
  have he : Ext s.memo ((nt.name, ty) :: s.memo) := Ext.cons ty hnone
  refine ⟨he, rfl, fun _ h => h, fun hg => ⟨?_, ?_⟩⟩
  · intro k v hk
    have hk : ((nt.name, ty) :: s.memo).lookup k = some v := hk
    by_cases e : k = nt.name
    · rw [e, hf]; rfl
    · rw [lookup_cons_ne ty s.memo e] at hk
      exact hg.keys k v hk
  · intro nt' hf' hd' ty' hl' h0 alt hm hnu
    have hl' : ((nt.name, ty) :: s.memo).lookup nt'.name = some ty' := hl'
    refine altTyP_mono he ?_
    by_cases e : nt'.name = nt.name
    · rw [e, hf] at hf'
      cases hf'
      rw [List.lookup_cons_self] at hl'
      cases hl'
      exact hnew h0 hd' alt hm hnu
    · rw [lookup_cons_ne ty s.memo e] at hl'
      exact hg.agree nt' hf' hd' ty' hl' h0 alt hm hnu

variable (env G) in
/-- what the recursive call must satisfy -/
structure RecOK (rec : String → St Ty → Res Ty Ty) : Prop where
  step : ∀ {id s r s'}, rec id s = (r, s') → Step env G s s'
  ok : ∀ {id s t s'}, rec id s = (.ok t, s') → s'.memo.lookup id = some t

section Rec
variable {rec : String → St Ty → Res Ty Ty} (h : RecOK env G rec)
include h

theorem symType_step {x : Sym} {s s' : St Ty} {r : Except Err Ty}
    (hr : symType env rec x s = (r, s')) : Step env G s s' := by
  induction x with
  | nt n => exact h.step hr
  | choose x ih => exact ih hr
  | named x ih => exact ih hr
  | tupled p x ih => exact ih hr
  | term t => cases hr; exact Step.refl _
  | error => cases hr; exact Step.refl _

theorem symType_ok {x : Sym} {s s' : St Ty} {t : Ty} (hr : symType env rec x s = (.ok t, s')) :
    symTyP env s'.memo x = .ok t := by
  induction x with
  | nt n => exact symTyP_nt.mpr (h.ok hr)
  | choose x ih => exact ih hr
  | named x ih => exact ih hr
  | tupled p x ih => exact ih hr
  | term u => cases hr; rfl
  | error => cases hr; rfl

theorem symTypes_step {xs : List Sym} {s s' : St Ty} {r : Except Err (List Ty)}
    (hr : symTypes env rec xs s = (r, s')) : Step env G s s' := by
  fun_induction symTypes env rec xs s generalizing r s' with
  | case1 s => cases hr; exact Step.refl _
  | case2 x xs s e s1 h1 => cases hr; exact symType_step h h1
  | case3 x xs s t s1 h1 e s2 h2 ih => cases hr; exact (symType_step h h1).trans (ih h2)
  | case4 x xs s t s1 h1 ts s2 h2 ih => cases hr; exact (symType_step h h1).trans (ih h2)

theorem symTypes_ok {xs : List Sym} {s s' : St Ty} {ts : List Ty}
    (hr : symTypes env rec xs s = (.ok ts, s')) : symTysP env s'.memo xs = .ok ts := by
  fun_induction symTypes env rec xs s generalizing ts s' with
  | case1 s => cases hr; rfl
  | case2 x xs s e s1 h1 => cases hr
  | case3 x xs s t s1 h1 e s2 h2 ih => cases hr
  | case4 x xs s t s1 h1 ts' s2 h2 ih =>
    cases hr
    -- the head was typed from an earlier table: monotonicity carries it to the final one
    exact (symTysP_cons_ok env).mpr
      ⟨t, ts', symTyP_mono (symTypes_step h h2).ext (symType_ok h h1), ih h2, rfl⟩

theorem altType_step {alt : Alt} {s s' : St Ty} {r : Except Err Ty}
    (hr : altType env rec alt s = (r, s')) : Step env G s s' := by
  rcases altType_altTyP_cases env alt with ⟨r0, h1, _⟩ | ⟨syms, h1, _⟩
  · rw [h1] at hr; cases hr; exact Step.refl _
  · rw [h1] at hr
    split at hr
    · next h2 => cases hr; exact symTypes_step h h2
    · next h2 => cases hr; exact symTypes_step h h2

theorem altType_ok {alt : Alt} {s s' : St Ty} {t : Ty} (hr : altType env rec alt s = (.ok t, s')) :
    altTyP env s'.memo alt = .ok t := by
  rcases altType_altTyP_cases env alt with ⟨r0, h1, h2⟩ | ⟨syms, h1, h2⟩
  · rw [h1] at hr; cases hr; exact h2 _
  · rw [h1] at hr
    rw [h2]
    split at hr
    · cases hr
    · next h3 => cases hr; rw [symTypes_ok h h3]

theorem typeRef_step {r : TyRef Tpl} {s s' : St Ty} {res : Except Err Ty}
    (hr : typeRef env rec r s = (res, s')) : Step env G s s' := by
  revert hr
  fun_cases typeRef env rec r s with
  | case1 e s2 h1 => intro hr; cases hr; exact symTypes_step h h1
  | case2 ts s2 h1 => intro hr; cases hr; exact symTypes_step h h1

theorem altsLoop_step (name : String) (alts : List Alt) (i : Nat) (s : St Ty) :
    Step env G s (altsLoop env rec name i alts s).2 := by
  fun_induction altsLoop env rec name i alts s with
  | case1 i s => exact Step.refl s
  | case2 i a as s t s1 h1 r ih => exact (altType_step h h1).trans ih
  | case3 i a as s e s1 h1 s1' r ih =>
    refine ((altType_step h h1).trans ?_).trans ih
    show Step env G s1 (ite _ _ _)
    split
    · exact Step.refl s1
    · exact Step.suppress s1 _

/-- if no alternative of `name` is in the log afterwards, every alternative without user action was
    typed -/
theorem altsLoop_ok (name : String) (alts : List Alt) (i : Nat) (s : St Ty)
    (h0 : ∀ j, (name, j) ∉ (altsLoop env rec name i alts s).2.suppressed) :
    ∀ alt ∈ alts, alt.act ≠ .user → ∃ t ∈ (altsLoop env rec name i alts s).1.1,
      altTyP env (altsLoop env rec name i alts s).2.memo alt = .ok t := by
  fun_induction altsLoop env rec name i alts s with
  | case1 i s => intro alt hm; cases hm
  | case2 i a as s t s1 h1 r ih =>
    refine List.forall_mem_cons.mpr ⟨fun _ => ⟨t, List.mem_cons_self,
      altTyP_mono (altsLoop_step h name as (i + 1) s1).ext (altType_ok h h1)⟩, fun alt hm hnu => ?_⟩
    obtain ⟨t', ht', hp⟩ := ih h0 alt hm hnu
    exact ⟨t', List.mem_cons_of_mem _ ht', hp⟩
  | case3 i a as s e s1 h1 s1' r ih =>
    refine List.forall_mem_cons.mpr ⟨fun hnu => ?_, ih h0⟩
    -- its error was logged, and the log only grows
    have hs : s1' = { s1 with suppressed := (name, i) :: s1.suppressed } := if_neg hnu
    have hlog : (name, i) ∈ s1'.suppressed := hs ▸ List.mem_cons_self
    exact absurd ((altsLoop_step h name as (i + 1) s1').supp _ hlog) (h0 i)

theorem validateTuples_step {l : List (Pat × Sym)} {s s' : St Ty} {r : Except Err Unit}
    (hr : validateTuples env rec l s = (r, s')) : Step env G s s' := by
  fun_induction validateTuples env rec l s generalizing r s' with
  | case1 s => cases hr; exact Step.refl _
  | case2 p n rest s e s1 h1 => cases hr; exact h.step h1
  | case3 p n rest s t s1 h1 e h2 => cases hr; exact h.step h1
  | case4 p n rest s t s1 h1 h2 ih => exact (h.step h1).trans (ih hr)
  | case5 p sym rest s hne => cases hr; exact Step.refl _

variable [DecidableEq Ty]

theorem ntBody_step {nt : Nt Tpl} {s s' : St Ty} {r : Except Err Ty}
    (hr : ntBody env rec nt s = (r, s')) : Step env G s s' := by
  have g := altsLoop_step h nt.name nt.alts 0 s
  revert hr
  fun_cases ntBody env rec nt s with
  | case1 r hd => exact typeRef_step h
  | case2 hd e es s1 h1 => intro hr; rw [h1] at g; cases hr; exact g
  | case3 hd s1 h1 => intro hr; rw [h1] at g; cases hr; exact g
  | case4 hd t0 rest es s1 h1 hall => intro hr; rw [h1] at g; cases hr; exact g
  | case5 hd t0 rest es s1 h1 hall => intro hr; rw [h1] at g; cases hr; exact g

theorem ntBody_ok {nt : Nt Tpl} (hd : nt.decl = none) {s s' : St Ty} {ty : Ty}
    (hr : ntBody env rec nt s = (.ok ty, s')) (h0 : ∀ j, (nt.name, j) ∉ s'.suppressed) :
    ∀ alt ∈ nt.alts, alt.act ≠ .user → altTyP env s'.memo alt = .ok ty := by
  have hl := altsLoop_ok h nt.name nt.alts 0 s
  revert hr
  fun_cases ntBody env rec nt s with
  | case1 r hd' => rw [hd] at hd'; cases hd'
  | case2 _ e es s1 h1 => intro hr; cases hr
  | case3 _ s1 h1 => intro hr; cases hr
  | case5 _ t0 rest es s1 h1 hall => intro hr; cases hr
  | case4 _ t0 rest es s1 h1 hall =>
    intro hr alt hm hnu
    rw [h1] at hl
    cases hr
    -- all successes equal the first, so the one returned (the last) and the one of `alt` do
    have hall : ∀ t ∈ t0 :: rest, t = t0 :=
      List.forall_mem_cons.mpr ⟨rfl, fun t ht => of_decide_eq_true (List.all_eq_true.mp hall t ht)⟩
    obtain ⟨t, ht, hp⟩ := hl h0 alt hm hnu
    exact hp.trans (congrArg Except.ok ((hall t ht).trans (hall _ (List.getLast_mem _)).symm))

end Rec

/-! ### when the table already answers, the inferencer returns that answer and changes nothing -/

section Hit
variable {rec : String → St Ty → Res Ty Ty}
  (hhit : ∀ n (s : St Ty) t, s.memo.lookup n = some t → rec n s = (.ok t, s))
include hhit

theorem symType_hit {x : Sym} {s : St Ty} {t : Ty} (hx : symTyP env s.memo x = .ok t) :
    symType env rec x s = (.ok t, s) := by
  induction x with
  | nt n => exact hhit n s t (symTyP_nt.mp hx)
  | choose x ih => exact ih hx
  | named x ih => exact ih hx
  | tupled p x ih => exact ih hx
  | term u => cases hx; rfl
  | error => cases hx; rfl

theorem symTypes_hit {xs : List Sym} {s : St Ty} {ts : List Ty}
    (hx : symTysP env s.memo xs = .ok ts) : symTypes env rec xs s = (.ok ts, s) := by
  induction xs generalizing ts with
  | nil => cases hx; rfl
  | cons x xs ih =>
    obtain ⟨t, ts', h1, h2, rfl⟩ := (symTysP_cons_ok env).mp hx
    simp only [symTypes, symType_hit hhit h1, ih h2]

theorem altType_hit {alt : Alt} {s : St Ty} {t : Ty} (hx : altTyP env s.memo alt = .ok t) :
    altType env rec alt s = (.ok t, s) := by
  rcases altType_altTyP_cases env alt with ⟨r0, h1, h2⟩ | ⟨syms, h1, h2⟩
  · rw [h1, ← h2 s.memo, hx]
  · rw [h2] at hx
    split at hx
    · cases hx
    · next ts h3 => cases hx; rw [h1, symTypes_hit hhit h3]

end Hit

end LalrpopModel.TyInfer
