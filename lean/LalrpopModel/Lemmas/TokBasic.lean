import LalrpopModel.Model.Tok
/-! Basic lemmas about the scanning primitives of `Model/Tok.lean`. -/
namespace LalrpopModel.Tok

@[simp] theorem utf8Len_nil : utf8Len [] = 0 := rfl
@[simp] theorem utf8Len_cons (c : Char) (cs : List Char) : utf8Len (c :: cs) = c.utf8Size + utf8Len cs := rfl

theorem utf8Len_append (a b : List Char) : utf8Len (a ++ b) = utf8Len a + utf8Len b := by
  induction a with
  | nil => simp
  | cons c cs ih => simp [ih, Nat.add_assoc]

theorem length_le_utf8Len (a : List Char) : a.length ≤ utf8Len a := by
  induction a with
  | nil => simp
  | cons c cs ih =>
    have := Char.utf8Size_pos c
    simp
    omega

theorem takeUntil_stop (p : Char → Bool) (pre : List Char) (c : Char) (rest : List Char) (pos : Nat)
    (hpre : ∀ x ∈ pre, p x = false) (hc : p c = true) :
    takeUntil p pos (pre ++ c :: rest) = (true, pre, ⟨pos + utf8Len pre, c :: rest⟩) := by
  induction pre generalizing pos with
  | nil => simp [takeUntil, hc]
  | cons x xs ih =>
    have hx : p x = false := hpre x (by simp)
    have := ih (pos + x.utf8Size) (fun y hy => hpre y (by simp [hy]))
    simp [takeUntil, hx, this, Nat.add_assoc]

/-- as `takeUntil_stop`, but `rest` may be empty: `take_until` running into the end of the input -/
theorem takeUntil_snd (p : Char → Bool) (pre rest : List Char) (pos : Nat)
    (hpre : ∀ x ∈ pre, p x = false) (hc : ∀ c, rest.head? = some c → p c = true) :
    (takeUntil p pos (pre ++ rest)).2 = (pre, ⟨pos + utf8Len pre, rest⟩) := by
  induction pre generalizing pos with
  | nil =>
    cases rest with
    | nil => rfl
    | cons c r => simp [takeUntil, hc c rfl]
  | cons x xs ih =>
    have hx : p x = false := hpre x (by simp)
    have := ih (pos + x.utf8Size) (fun y hy => hpre y (by simp [hy]))
    simp [takeUntil, hx, this, Nat.add_assoc]

/-- the state of an `FnMut` closure after it has seen `pre` without stopping -/
def runS {σ : Type} (f : σ → Char → σ × Bool) : σ → List Char → σ
  | s, [] => s
  | s, c :: cs => runS f (f s c).1 cs

/-- the closure does not stop on any character of `pre` -/
def noStop {σ : Type} (f : σ → Char → σ × Bool) : σ → List Char → Prop
  | _, [] => True
  | s, c :: cs => (f s c).2 = false ∧ noStop f (f s c).1 cs

theorem takeUntilS_stop {σ : Type} (f : σ → Char → σ × Bool) (s : σ) (pre : List Char) (c : Char)
    (rest : List Char) (pos : Nat) (hpre : noStop f s pre) (hc : (f (runS f s pre) c).2 = true) :
    takeUntilS f s pos (pre ++ c :: rest) = (true, pre, ⟨pos + utf8Len pre, c :: rest⟩) := by
  induction pre generalizing pos s with
  | nil => simp [runS] at hc; simp [takeUntilS, hc]
  | cons x xs ih =>
    obtain ⟨hx, hxs⟩ := hpre
    have := ih (f s x).1 (pos + x.utf8Size) hxs (by simpa [runS] using hc)
    simp [takeUntilS, hx, this, Nat.add_assoc]

theorem takeUntilS_inv {σ : Type} (f : σ → Char → σ × Bool) (s : σ) (pos : Nat) (xs : List Char) :
    (takeUntilS f s pos xs).2.1 ++ (takeUntilS f s pos xs).2.2.rest = xs ∧
    (takeUntilS f s pos xs).2.2.pos = pos + utf8Len (takeUntilS f s pos xs).2.1 ∧
    ((takeUntilS f s pos xs).1 = true → (takeUntilS f s pos xs).2.2.rest ≠ []) := by
  induction xs generalizing s pos with
  | nil => simp [takeUntilS]
  | cons x xs ih =>
    simp only [takeUntilS]
    split
    · simp
    · obtain ⟨h1, h2, h3⟩ := ih (f s x).1 (pos + x.utf8Size)
      refine ⟨by simp [h1], by simp [h2, Nat.add_assoc], h3⟩

theorem noStop_append {σ : Type} (f : σ → Char → σ × Bool) (s : σ) (a b : List Char) :
    noStop f s (a ++ b) ↔ noStop f s a ∧ noStop f (runS f s a) b := by
  induction a generalizing s with
  | nil => simp [noStop, runS]
  | cons x xs ih => simp [noStop, runS, ih, and_assoc]

theorem runS_append {σ : Type} (f : σ → Char → σ × Bool) (s : σ) (a b : List Char) :
    runS f s (a ++ b) = runS f (runS f s a) b := by
  induction a generalizing s with
  | nil => simp [runS]
  | cons x xs ih => simp [runS, ih]

@[simp] theorem between_append (p q : Nat) (a b : List Char) : between ⟨p, a ++ b⟩ ⟨q, b⟩ = a := by
  simp [between]

theorem between_prefix (p q : Nat) (a f r : List Char) (h : r = a ++ f) : between ⟨p, r⟩ ⟨q, f⟩ = a :=
  h ▸ between_append p q a f

/-- a loop that spends at most `(f a).length` iterations on each piece `a` of a text spends at most its length -/
theorem sum_le_length_flatMap {α β : Type} (f : α → List β) (n : α → Nat) (h : ∀ a, n a ≤ (f a).length)
    (l : List α) : (l.map n).sum ≤ (l.flatMap f).length := by
  induction l with
  | nil => exact Nat.le_refl 0
  | cons a l ih =>
    rw [List.map_cons, List.sum_cons, List.flatMap_cons, List.length_append]
    exact Nat.add_le_add (h a) ih

/-- the fuel an entry point passes for the text `a ++ b`, split for a loop that spends `i` iterations on `a` -/
theorem fuel_split {α : Type} (a b : List α) (i : Nat) (h : i ≤ a.length) :
    (a ++ b).length + 1 = (a.length - i + b.length) + 1 + i := by
  rw [List.length_append, Nat.add_right_comm _ 1 i, Nat.add_right_comm _ b.length i, Nat.sub_add_cancel h]

/-- for a character literal `simp` decides `h` (`simp only` needs `Char.reduceVal, UInt32.reduceLE`) -/
@[simp] theorem utf8Size_ascii (c : Char) (h : c.val ≤ 127) : c.utf8Size = 1 := by
  simp [Char.utf8Size, h]

@[simp] theorem usz_35 : '\n'.utf8Size = 1 := by decide

end LalrpopModel.Tok
