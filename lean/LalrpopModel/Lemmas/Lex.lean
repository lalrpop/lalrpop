import LalrpopModel.Model.Lex
/-!
Specification vocabulary for M-LEX (`Model/Lex.lean`), used by Props/C09 and Props/C08Lex: longest match,
the declarative stream `Lexes`, span well-formedness; `scan` and `next` stated in these terms.
-/
namespace LalrpopModel.Lex
variable {α : Type}

/-- `L` is the length of the longest prefix of `text` matched by some pattern -/
def IsLongest (o : Oracle α) (text : List α) (L : Nat) : Prop :=
  L ≤ text.length ∧ o.isMatch (text.take L) = true ∧
    ∀ k, k ≤ text.length → o.isMatch (text.take k) = true → k ≤ L

/-- no prefix of `text` (the empty one included) is matched by any pattern -/
def NoMatch (o : Oracle α) (text : List α) : Prop :=
  ∀ k, k ≤ text.length → o.isMatch (text.take k) = false

/-- what the lexer relies on for `is_dead()`: once the DFA is dead no longer prefix matches -/
def DeadSound (o : Oracle α) : Prop :=
  ∀ (text : List α) (i : Nat), i < text.length → o.dead (text.take (i + 1)) = true →
    ∀ k, i < k → k ≤ text.length → o.isMatch (text.take k) = false


/-- the invariant of the `'search` loop before index `i`: `best` is the greatest matched length
below `i`, if there is one -/
def BestBelow (o : Oracle α) (text : List α) (i : Nat) (best : Option Nat) : Prop :=
  (∀ b, best = some b → b < i ∧ o.isMatch (text.take b) = true) ∧
  ∀ k, k < i → o.isMatch (text.take k) = true → ∃ b, best = some b ∧ k ≤ b

namespace BestBelow
variable {o : Oracle α} {text : List α} {i : Nat} {best : Option Nat}

theorem step_match (hm : o.isMatch (text.take i) = true) : BestBelow o text (i + 1) (some i) :=
  ⟨fun b hb => by cases hb; exact ⟨Nat.lt_succ_self i, hm⟩,
   fun _ hk _ => ⟨i, rfl, Nat.le_of_lt_succ hk⟩⟩

theorem step_noMatch (h : BestBelow o text i best) (hm : ¬ o.isMatch (text.take i) = true) :
    BestBelow o text (i + 1) best :=
  ⟨fun b hb => ⟨Nat.lt_succ_of_lt (h.1 b hb).1, (h.1 b hb).2⟩,
   fun k hk hmk => h.2 k (Nat.lt_of_le_of_ne (Nat.le_of_lt_succ hk) fun e => hm (e ▸ hmk)) hmk⟩

/-- once every matched length lies below `i`, `best` is the answer -/
theorem finish (h : BestBelow o text i best) (hi : i ≤ text.length + 1)
    (hall : ∀ k, k ≤ text.length → o.isMatch (text.take k) = true → k < i) :
    (best = none → NoMatch o text) ∧ (∀ L, best = some L → IsLongest o text L) := by
  constructor
  · rintro rfl k hk
    refine Bool.eq_false_iff.mpr fun hmk => ?_
    obtain ⟨b, hb, _⟩ := h.2 k (hall k hk hmk) hmk
    cases hb
  · rintro L rfl
    refine ⟨Nat.le_of_lt_succ (Nat.lt_of_lt_of_le (h.1 L rfl).1 hi), (h.1 L rfl).2, fun k hk hmk => ?_⟩
    obtain ⟨b, hb, hkb⟩ := h.2 k (hall k hk hmk) hmk
    cases hb
    exact hkb

end BestBelow

theorem scan_inv (o : Oracle α) (hd : DeadSound o) (text : List α) (i : Nat) (best : Option Nat)
    (hi : i ≤ text.length) (h : BestBelow o text i best) :
    (scan o text i best = none → NoMatch o text) ∧
    (∀ L, scan o text i best = some L → IsLongest o text L) := by
  fun_induction scan o text i best with
  | case1 i best hlt hm ih => exact ih hlt (.step_match hm)
  | case2 i best hlt hm hdead =>
    -- the DFA is dead after byte `i`: no longer prefix matches
    refine (h.step_noMatch hm).finish (Nat.succ_le_succ hi) fun k hk hmk => ?_
    refine Nat.lt_succ_of_le (Nat.le_of_not_lt fun hik => ?_)
    rw [hd text i hlt hdead k hik hk] at hmk; cases hmk
  | case3 i best hlt hm hdead ih => exact ih hlt (h.step_noMatch hm)
  | case4 i best hge hm =>
    exact (BestBelow.step_match hm).finish (Nat.succ_le_succ hi) fun k hk _ =>
      Nat.lt_succ_of_le (Nat.le_trans hk (Nat.le_of_not_lt hge))
  | case5 i best hge hm =>
    exact (h.step_noMatch hm).finish (Nat.succ_le_succ hi) fun k hk _ =>
      Nat.lt_succ_of_le (Nat.le_trans hk (Nat.le_of_not_lt hge))

theorem scan_spec (o : Oracle α) (hd : DeadSound o) (text : List α) :
    (scan o text 0 none = none → NoMatch o text) ∧
    (∀ L, scan o text 0 none = some L → IsLongest o text L) :=
  scan_inv o hd text 0 none (Nat.zero_le _) ⟨nofun, fun _ hk => absurd hk (Nat.not_lt_zero _)⟩

theorem IsLongest.unique {o : Oracle α} {text : List α} {L L' : Nat}
    (h : IsLongest o text L) (h' : IsLongest o text L') : L = L' :=
  Nat.le_antisymm (h'.2.2 L h.1 h.2.1) (h.2.2 L' h'.1 h'.2.1)

theorem scan_eq_some (o : Oracle α) (hd : DeadSound o) (text : List α) (L : Nat)
    (h : IsLongest o text L) : scan o text 0 none = some L := by
  cases hs : scan o text 0 none with
  | none =>
    have := (scan_spec o hd text).1 hs L h.1
    rw [h.2.1] at this
    cases this
  | some L' => rw [((scan_spec o hd text).2 L' hs).unique h]

theorem scan_eq_none (o : Oracle α) (hd : DeadSound o) (text : List α)
    (h : NoMatch o text) : scan o text 0 none = none := by
  cases hs : scan o text 0 none with
  | none => rfl
  | some L =>
    have hl := (scan_spec o hd text).2 L hs
    have := hl.2.1
    rw [h L hl.1] at this
    cases this

theorem noMatch_or_longest (o : Oracle α) (hd : DeadSound o) (text : List α) :
    NoMatch o text ∨ ∃ L, IsLongest o text L := by
  cases hs : scan o text 0 none with
  | none => exact .inl ((scan_spec o hd text).1 hs)
  | some L => exact .inr ⟨L, (scan_spec o hd text).2 L hs⟩


/-- the pattern index reported for a match of length `L`: the greatest index in the match set -/
def winner (o : Oracle α) (text : List α) (L : Nat) : Nat := maxIdx (o.matchSet (text.take L))

theorem next_nil (o : Oracle α) (skip : List Bool) (st : St α) (h : st.text = []) :
    next o skip st = (.eof, st) := by
  rw [next, h]; rfl

theorem next_of_noMatch (o : Oracle α) (hd : DeadSound o) (skip : List Bool) (st : St α)
    (hne : st.text ≠ []) (hn : NoMatch o st.text) : next o skip st = (.invalid st.consumed, st) := by
  rw [next, List.isEmpty_eq_false_iff.mpr hne, scan_eq_none o hd _ hn]; rfl

theorem next_of_longest (o : Oracle α) (hd : DeadSound o) (skip : List Bool) (st : St α) {L : Nat}
    (hne : st.text ≠ []) (hl : IsLongest o st.text L) :
    next o skip st =
      if L = 0 then (.invalid st.consumed, st.advance L)
      else match skip[winner o st.text L]? with
        | none => (.panic, st.advance L)
        | some true => next o skip (st.advance L)
        | some false =>
          (.tok st.consumed (winner o st.text L) (st.text.take L) (st.consumed + L), st.advance L) := by
  rw [next, List.isEmpty_eq_false_iff.mpr hne, scan_eq_some o hd _ _ hl]; rfl

theorem St.advance_advance (st : St α) (a b : Nat) : (st.advance a).advance b = st.advance (a + b) := by
  simp only [St.advance, List.drop_drop, Nat.add_assoc]

theorem St.advance_length_le (st : St α) (n : Nat) : (st.advance n).text.length ≤ st.text.length :=
  List.length_drop ▸ Nat.sub_le _ _

theorem St.advance_length_lt {st : St α} {n : Nat} (hne : st.text ≠ []) (hn : 0 < n) :
    (st.advance n).text.length < st.text.length :=
  List.length_drop ▸ Nat.sub_lt (List.length_pos_iff.mpr hne) hn

theorem next_text_le (o : Oracle α) (skip : List Bool) (st : St α) :
    (next o skip st).2.text.length ≤ st.text.length := by
  fun_induction next o skip st with
  | case1 | case2 => exact Nat.le_refl _
  | case3 | case4 | case6 => exact St.advance_length_le _ _
  | case5 st h len hs index st' hlen hsk ih => exact Nat.le_trans ih (st.advance_length_le len)


/-- Declarative specification of the whole stream (what the documentation promises): starting
at `st`, repeatedly take the longest match; skip matches vanish, terminal matches become tokens
with byte-offset spans, the stream ends at end of input or with `InvalidToken` at the first
position where no non-empty prefix matches. -/
inductive Lexes (o : Oracle α) (skip : List Bool) : St α → List (Item α) → Prop where
  | done (st) : st.text = [] → Lexes o skip st []
  | bad (st) : st.text ≠ [] → (NoMatch o st.text ∨ IsLongest o st.text 0) →
      Lexes o skip st [.invalid st.consumed]
  | skip (st) (L) (items) : st.text ≠ [] → IsLongest o st.text L → 0 < L →
      skip[winner o st.text L]? = some true → Lexes o skip (st.advance L) items →
      Lexes o skip st items
  | tok (st) (L) (items) : st.text ≠ [] → IsLongest o st.text L → 0 < L →
      skip[winner o st.text L]? = some false → Lexes o skip (st.advance L) items →
      Lexes o skip st
        (.tok st.consumed (winner o st.text L) (st.text.take L) (st.consumed + L) :: items)
  | oob (st) (L) : st.text ≠ [] → IsLongest o st.text L → 0 < L →
      skip[winner o st.text L]? = none → Lexes o skip st [.panic]

/-- every state has a specified stream (the specification only ever moves forward in the text) -/
theorem Lexes.exists (o : Oracle α) (hd : DeadSound o) (skip : List Bool) (st : St α) :
    ∃ items, Lexes o skip st items := by
  induction hn : st.text.length using Nat.strongRecOn generalizing st with
  | ind n ih =>
    by_cases hne : st.text = []
    · exact ⟨_, .done st hne⟩
    rcases noMatch_or_longest o hd st.text with hno | ⟨L, hl⟩
    · exact ⟨_, .bad st hne (.inl hno)⟩
    by_cases hL : L = 0
    · exact ⟨_, .bad st hne (.inr (hL ▸ hl))⟩
    have hpos : 0 < L := Nat.pos_of_ne_zero hL
    -- past a non-empty match the remaining text is shorter
    obtain ⟨items, hi⟩ := ih _ (hn ▸ St.advance_length_lt hne hpos) (st.advance L) rfl
    cases hsk : skip[winner o st.text L]? with
    | none => exact ⟨_, .oob st L hne hl hpos hsk⟩
    | some b =>
      cases b with
      | true => exact ⟨_, .skip st L items hne hl hpos hsk hi⟩
      | false => exact ⟨_, .tok st L items hne hl hpos hsk hi⟩

/-- Spans over the original `input`: every token's span lies at or after the previous token's
end, is non-empty and inside the input, and the token text is exactly the slice
`input[start..stop]`; an `InvalidToken` location is a position inside the input. -/
def SpansOk (input : List α) : Nat → List (Item α) → Prop
  | _, [] => True
  | pos, .tok s _ t e :: rest =>
      pos ≤ s ∧ s < e ∧ e ≤ input.length ∧ t = (input.drop s).take (e - s) ∧ SpansOk input e rest
  | pos, .invalid loc :: rest => pos ≤ loc ∧ loc < input.length ∧ rest = []
  | _, .eof :: _ => False
  | _, .panic :: rest => rest = []

theorem SpansOk.mono {input : List α} {p q : Nat} {items : List (Item α)} (hpq : q ≤ p)
    (h : SpansOk input p items) : SpansOk input q items := by
  cases items with
  | nil => trivial
  | cons it rest =>
    cases it with
    | tok s i t e => exact ⟨Nat.le_trans hpq h.1, h.2⟩
    | invalid loc => exact ⟨Nat.le_trans hpq h.1, h.2⟩
    | eof => exact h
    | panic => exact h

namespace Lexes
variable {o : Oracle α} {skip : List Bool} {st : St α} {items : List (Item α)}

theorem spans (h : Lexes o skip st items) (input : List α) (hst : st.text = input.drop st.consumed) :
    SpansOk input st.consumed items := by
  have adv : ∀ (st : St α) L, st.text = input.drop st.consumed →
      (st.advance L).text = input.drop (st.advance L).consumed := fun st L hst => by
    rw [St.advance, hst, List.drop_drop]
  induction h with
  | done st h => trivial
  | bad st h hb =>
    have : 0 < st.text.length := List.length_pos_iff.mpr h
    rw [hst, List.length_drop] at this
    exact ⟨Nat.le_refl _, Nat.lt_of_sub_pos this, rfl⟩
  | oob st L h hl hpos hsk => rfl
  | skip st L items h hl hpos hsk _ ih => exact (ih (adv st L hst)).mono (Nat.le_add_right _ _)
  | tok st L items h hl hpos hsk _ ih =>
    have hL := hl.1
    rw [hst, List.length_drop] at hL
    refine ⟨Nat.le_refl _, Nat.lt_add_of_pos_right hpos, by omega, ?_, ih (adv st L hst)⟩
    rw [hst, Nat.add_sub_cancel_left]

theorem count (h : Lexes o skip st items) :
    (items.filter Item.isTok).length ≤ st.text.length ∧ items.length ≤ st.text.length + 1 := by
  induction h with
  | done st h => exact ⟨Nat.zero_le _, Nat.zero_le _⟩
  | bad st h hb => exact ⟨Nat.zero_le _, Nat.succ_le_succ (Nat.zero_le _)⟩
  | oob st L h hl hpos hsk => exact ⟨Nat.zero_le _, Nat.succ_le_succ (Nat.zero_le _)⟩
  | skip st L items h hl hpos hsk _ ih =>
    have hle := st.advance_length_le L
    exact ⟨Nat.le_trans ih.1 hle, Nat.le_trans ih.2 (Nat.succ_le_succ hle)⟩
  | tok st L items h hl hpos hsk _ ih =>
    have hlt := St.advance_length_lt h hpos
    rw [List.filter_cons_of_pos rfl, List.length_cons, List.length_cons]
    exact ⟨Nat.lt_of_le_of_lt ih.1 hlt, Nat.succ_le_succ (Nat.le_trans ih.2 hlt)⟩

theorem tok_pos (h : Lexes o skip st items) {s i e : Nat} {t : List α}
    (hm : Item.tok s i t e ∈ items) : s < e := by
  induction h with
  | done st h => cases hm
  | bad st h hb => cases List.mem_singleton.mp hm
  | oob st L h hl hpos hsk => cases List.mem_singleton.mp hm
  | skip st L items h hl hpos hsk _ ih => exact ih hm
  | tok st L items h hl hpos hsk _ ih =>
    rcases List.mem_cons.mp hm with hm | hm
    · cases hm; exact Nat.lt_add_of_pos_right hpos
    · exact ih hm

end Lexes

end LalrpopModel.Lex
