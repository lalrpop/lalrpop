import LalrpopModel.Lemmas.LRSoundBasic
import LalrpopModel.Lemmas.LRValidShape
/-!
LR completeness: tree vocabulary (`shape`, `skeleton`, `post`), lookahead of a token
list, and soundness of the checked `nullable`/`first` tables (`first_sound`): clause V1 of the
validator (`checkFirst`) makes the tables supersets of the true sets, which is all the
completeness proof needs from them.
-/
namespace LalrpopModel.LR

mutual
/-- the tree with the spans of its nodes erased (productions, children, leaf tokens are kept);
    the driver computes the spans itself, so values are compared up to `shape` -/
def Tree.shape : Tree → Tree
  | .leaf a => .leaf a
  | .node p _ _ ks => .node p 0 0 ks.shape
  | .err e d => .err e d
def Forest.shape : Forest → Forest
  | .nil => .nil
  | .cons t ts => .cons t.shape ts.shape
end

/-- a token reduced to its kind -/
def Tok.erase (a : Tok) : Tok := { l := 0, kind := a.kind, id := 0, r := 0 }

mutual
/-- the tree with spans erased and every leaf token reduced to its kind -/
def Tree.skeleton : Tree → Tree
  | .leaf a => .leaf a.erase
  | .node p _ _ ks => .node p 0 0 ks.skeleton
  | .err e d => .err e d
def Forest.skeleton : Forest → Forest
  | .nil => .nil
  | .cons t ts => .cons t.skeleton ts.skeleton
end

mutual
/-- productions of the nodes of a tree in post-order -/
def Tree.post : Tree → List Nat
  | .leaf _ => []
  | .node p _ _ ks => ks.post ++ [p]
  | .err _ _ => []
def Forest.post : Forest → List Nat
  | .nil => []
  | .cons t ts => t.post ++ ts.post
end

theorem Forest.toList_ofList (l : List Tree) : (Forest.ofList l).toList = l := by
  induction l with
  | nil => rfl
  | cons a l ih => simp [Forest.ofList, Forest.toList, ih]

theorem Forest.ofList_toList : (f : Forest) → Forest.ofList f.toList = f
  | .nil => rfl
  | .cons t ts => by simp [Forest.toList, Forest.ofList, Forest.ofList_toList ts]

theorem Forest.shape_eq_ofList : (f : Forest) → f.shape = Forest.ofList (f.toList.map Tree.shape)
  | .nil => rfl
  | .cons t ts => by simp [Forest.toList, Forest.ofList, Forest.shape, Forest.shape_eq_ofList ts]

theorem Forest.shape_ofList_of_map_eq {l : List Tree} {f : Forest}
    (h : l.map Tree.shape = f.toList.map Tree.shape) : (Forest.ofList l).shape = f.shape := by
  rw [Forest.shape_eq_ofList, Forest.shape_eq_ofList f, Forest.toList_ofList, h]

mutual
theorem Tree.skeleton_shape : (t : Tree) → t.shape.skeleton = t.skeleton
  | .leaf _ => rfl
  | .node _ _ _ ks => by simp [Tree.shape, Tree.skeleton, Forest.skeleton_shape ks]
  | .err _ _ => rfl
theorem Forest.skeleton_shape : (f : Forest) → f.shape.skeleton = f.skeleton
  | .nil => rfl
  | .cons t ts => by simp [Forest.shape, Forest.skeleton, Tree.skeleton_shape t, Forest.skeleton_shape ts]
end

theorem Forest.wf_length {G : Grammar} {e : Option Term} :
    (fs : Forest) → {Xs : List Sym} → Forest.WF G e fs Xs → fs.toList.length = Xs.length
  | .nil, _, h => by cases h; rfl
  | .cons t ts, _, h => by
    cases h with
    | cons _ _ X Xs' _ _ h3 => simp [Forest.toList, Forest.wf_length ts h3]

/-- the lookahead the driver sees in front of the tokens `v`: the kind of the first, or EOF -/
def laOf : List Tok → LA
  | [] => none
  | a :: _ => a.kind

/-- every token has a kind (`token_to_index` answers) -/
def AllK (v : List Tok) : Prop := ∀ a ∈ v, ∃ k, a.kind = some k

theorem AllK.append {u v : List Tok} (hu : AllK u) (hv : AllK v) : AllK (u ++ v) := by
  intro a ha
  rcases List.mem_append.mp ha with h | h
  · exact hu a h
  · exact hv a h

theorem AllK.tail {a : Tok} {v : List Tok} (h : AllK (a :: v)) : AllK v :=
  fun b hb => h b (List.mem_cons_of_mem _ hb)

theorem AllK.right {u v : List Tok} (h : AllK (u ++ v)) : AllK v :=
  fun b hb => h b (List.mem_append_right _ hb)

/-! ### V1: the checked nullable/first tables contain the true sets -/

section
variable {G : Grammar} {ann : Ann}

theorem checkFirst_prod (hF : checkFirst G ann = true) {p : Nat} {pr : Production}
    (hp : G.prods[p]? = some pr) :
    (pr.rhs.all ann.nullableSym = true → ann.nullableNT pr.lhs = true) ∧
      checkFirst.go ann pr pr.rhs = true := by
  have hmem : pr ∈ G.prods := List.mem_of_getElem? hp
  simp only [checkFirst, Bool.and_eq_true, List.all_eq_true, decide_eq_true_eq] at hF
  have := hF.2 pr hmem
  simpa only [List.all_eq_true] using this

mutual
theorem first_sound_tree (hF : checkFirst G ann = true) :
    (t : Tree) → (X : Sym) → Tree.WF G none t → t.root G none = some X →
      (t.yield = [] → ann.nullableSym X = true) ∧
      (∀ a rest, t.yield = a :: rest → ∃ k, a.kind = some k ∧ k ∈ ann.firstSym X)
  | .leaf a => by
    intro X hwf hroot
    cases hwf with
    | leaf _ k hk =>
      simp [Tree.root, hk] at hroot
      subst hroot
      refine ⟨by simp [Tree.yield], ?_⟩
      intro b rest hb
      simp [Tree.yield] at hb
      obtain ⟨rfl, _⟩ := hb
      exact ⟨k, hk, by simp [Ann.firstSym]⟩
  | .node q _ _ ks => by
    intro X hwf hroot
    cases hwf with
    | node _ _ _ qr _ hq hks =>
      simp [Tree.root, hq] at hroot
      subst hroot
      obtain ⟨hnull, hgo⟩ := checkFirst_prod hF hq
      obtain ⟨h1, h2⟩ := first_sound_forest hF ks qr.rhs hks
      refine ⟨?_, ?_⟩
      · intro hy
        exact hnull (h1 (by simpa [Tree.yield] using hy))
      · intro a rest hy
        exact h2 a rest qr (by simpa [Tree.yield] using hy) hgo
  | .err _ _ => by
    intro _ hwf
    cases hwf with
    | err _ _ k hk => cases hk
/-- `first_sound` for forests, against the closure condition `checkFirst.go` of a production -/
theorem first_sound_forest (hF : checkFirst G ann = true) :
    (fs : Forest) → (β : List Sym) → Forest.WF G none fs β →
      (fs.yield = [] → β.all ann.nullableSym = true) ∧
      (∀ a rest (pr : Production), fs.yield = a :: rest → checkFirst.go ann pr β = true →
        ∃ k, a.kind = some k ∧ k ∈ ann.firstNT pr.lhs)
  | .nil => by
    intro β hwf
    cases hwf
    refine ⟨by simp, ?_⟩
    intro a rest pr hy
    simp [Forest.yield] at hy
  | .cons t ts => by
    intro β hwf
    cases hwf with
    | cons _ _ X Xs hwt hroot hwts =>
      obtain ⟨t1, t2⟩ := first_sound_tree hF t X hwt hroot
      obtain ⟨f1, f2⟩ := first_sound_forest hF ts Xs hwts
      refine ⟨?_, ?_⟩
      · intro hy
        simp only [Forest.yield, List.append_eq_nil_iff] at hy
        simp [t1 hy.1, f1 hy.2]
      · intro a rest pr hy hgo
        rw [checkFirst.go] at hgo
        simp only [Bool.and_eq_true] at hgo
        simp only [Forest.yield] at hy
        cases hty : t.yield with
        | nil =>
          rw [hty] at hy
          have hn := t1 hty
          rw [hn] at hgo
          exact f2 a rest pr (by simpa using hy) (by simpa using hgo.2)
        | cons b more =>
          rw [hty] at hy
          simp at hy
          obtain ⟨rfl, _⟩ := hy
          obtain ⟨k, hk, hkX⟩ := t2 _ _ hty
          exact ⟨k, hk, subsetOf_mem hgo.1 hkX⟩
end

/-- `first_sound`, lifted to `firstSeq`: the lookahead in front of the yield of a forest for `β`
    followed by `v` is one of the lookaheads `firstSeq β (laOf v)` -/
theorem firstSeq_sound (hF : checkFirst G ann = true) :
    (fs : Forest) → (β : List Sym) → (v : List Tok) → Forest.WF G none fs β →
      laOf (fs.yield ++ v) ∈ ann.firstSeq β (laOf v)
  | .nil, β, v, hwf => by
    cases hwf
    simp [Forest.yield, Ann.firstSeq]
  | .cons t ts, β, v, hwf => by
    cases hwf with
    | cons _ _ X Xs hwt hroot hwts =>
      obtain ⟨t1, t2⟩ := first_sound_tree hF t X hwt hroot
      have ih := firstSeq_sound hF ts Xs v hwts
      simp only [Forest.yield, Ann.firstSeq, List.mem_append, List.mem_map]
      cases hty : t.yield with
      | nil =>
        right
        simpa [t1 hty] using ih
      | cons b more =>
        left
        obtain ⟨k, hk, hkX⟩ := t2 _ _ hty
        exact ⟨k, hkX, by simp [laOf, hk]⟩

end

end LalrpopModel.LR
