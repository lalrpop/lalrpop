import LalrpopModel.Model.ReLit
/-! Lemmas for C10 (`Props/C10.lean`): each layer of the chain on one character. -/
namespace LalrpopModel.ReLit
open LalrpopModel.Re

/-! ### UTF-8

The decoder is described on bytes written as marker + payload (`0xC0 + a`, `0x80 + x % 64`, …),
which is the form the encoder produces; the decoded value is then the payloads read as base-64
digits, and the only arithmetic left is that the base-64 digits of `c` give back `c`. -/

theorem isCont_low (x : Nat) : isCont (0x80 + x % 64) = true := by
  simp only [isCont, Bool.and_eq_true, decide_eq_true_eq]; omega

private theorem not_add_lt (m a k : Nat) (h : k ≤ m) : ¬ m + a < k :=
  Nat.not_lt.2 (Nat.le_trans h (Nat.le_add_right m a))

theorem decode_nil : decodeUtf8 [] = some [] := by
  unfold decodeUtf8; rfl

theorem decode_one (b0 : Nat) (r : List Nat) (h : b0 < 0x80) :
    decodeUtf8 (b0 :: r) = (decodeUtf8 r).map (b0 :: ·) := by
  conv => lhs; unfold decodeUtf8
  rw [if_pos h]

theorem decode_two (a x : Nat) (r : List Nat) (h1 : 2 ≤ a) (h2 : a < 32) :
    decodeUtf8 ((0xC0 + a) :: (0x80 + x % 64) :: r) =
      (decodeUtf8 r).map ((a * 64 + x % 64) :: ·) := by
  conv => lhs; unfold decodeUtf8
  rw [if_neg (not_add_lt 0xC0 a 0x80 (by decide)), if_neg (by omega), if_pos (by omega)]
  simp only [isCont_low, if_true, Nat.add_sub_cancel_left]

theorem decode_three (a x y v : Nat) (r : List Nat) (ha : a < 16)
    (hv : a * 4096 + x % 64 * 64 + y % 64 = v) (h1 : 0x800 ≤ v) (h2 : v < 0xD800 ∨ 0xE000 ≤ v) :
    decodeUtf8 ((0xE0 + a) :: (0x80 + x % 64) :: (0x80 + y % 64) :: r) =
      (decodeUtf8 r).map (v :: ·) := by
  conv => lhs; unfold decodeUtf8
  rw [if_neg (not_add_lt 0xE0 a 0x80 (by decide)), if_neg (not_add_lt 0xE0 a 0xC2 (by decide)),
    if_neg (not_add_lt 0xE0 a 0xE0 (by decide)), if_pos (by omega)]
  simp only [isCont_low, Nat.add_sub_cancel_left, hv, Bool.true_and]
  rw [if_pos]
  simp only [Bool.and_eq_true, decide_eq_true_eq, Bool.not_eq_true', Bool.and_eq_false_iff,
    decide_eq_false_iff_not]
  exact ⟨h1, h2.imp Nat.not_le.2 Nat.not_lt.2⟩

theorem decode_four (a x y z v : Nat) (r : List Nat) (ha : a < 5)
    (hv : a * 262144 + x % 64 * 4096 + y % 64 * 64 + z % 64 = v) (h1 : 0x10000 ≤ v)
    (h2 : v < 0x110000) :
    decodeUtf8 ((0xF0 + a) :: (0x80 + x % 64) :: (0x80 + y % 64) :: (0x80 + z % 64) :: r) =
      (decodeUtf8 r).map (v :: ·) := by
  conv => lhs; unfold decodeUtf8
  rw [if_neg (not_add_lt 0xF0 a 0x80 (by decide)), if_neg (not_add_lt 0xF0 a 0xC2 (by decide)),
    if_neg (not_add_lt 0xF0 a 0xE0 (by decide)), if_neg (not_add_lt 0xF0 a 0xF0 (by decide)),
    if_pos (by omega)]
  simp only [isCont_low, Nat.add_sub_cancel_left, hv, Bool.true_and]
  rw [if_pos]
  simp only [Bool.and_eq_true, decide_eq_true_eq]
  exact ⟨h1, h2⟩

theorem base64_three (c : Nat) : c / 4096 * 4096 + c / 64 % 64 * 64 + c % 64 = c := by
  have h : c / 4096 = c / 64 / 64 := (Nat.div_div_eq_div_mul c 64 64).symm
  rw [h]; omega

theorem base64_four (c : Nat) :
    c / 262144 * 262144 + c / 4096 % 64 * 4096 + c / 64 % 64 * 64 + c % 64 = c := by
  have h : c / 4096 = c / 64 / 64 := (Nat.div_div_eq_div_mul c 64 64).symm
  have h' : c / 262144 = c / 64 / 64 / 64 := by
    rw [Nat.div_div_eq_div_mul, Nat.div_div_eq_div_mul]
  rw [h, h']; omega

theorem isScalar_iff (c : Nat) : isScalar c = true ↔ c < 0xD800 ∨ (0xE000 ≤ c ∧ c < 0x110000) := by
  simp [isScalar]

theorem isScalar_lt {c : Nat} (h : isScalar c = true) : c < 0x110000 := by
  rw [isScalar_iff] at h; omega

theorem decode_encodeChar (c : Nat) (hc : isScalar c = true) (rest : List Nat) :
    decodeUtf8 (encodeChar c ++ rest) = (decodeUtf8 rest).map (c :: ·) := by
  unfold encodeChar
  by_cases h0 : c < 0x80
  · rw [if_pos h0]
    exact decode_one c rest h0
  rw [if_neg h0]
  by_cases h1 : c < 0x800
  · have := decode_two (c / 64) c rest ((Nat.le_div_iff_mul_le (by decide)).2
      (Nat.le_of_not_lt h0)) (Nat.div_lt_of_lt_mul h1)
    rw [if_pos h1]
    rwa [Nat.div_add_mod' c 64] at this
  rw [if_neg h1]
  by_cases h2 : c < 0x10000
  · rw [if_pos h2]
    exact decode_three (c / 4096) (c / 64) c c rest (Nat.div_lt_of_lt_mul h2) (base64_three c)
      (Nat.le_of_not_lt h1) (((isScalar_iff c).1 hc).imp id And.left)
  · rw [if_neg h2]
    have hlt := isScalar_lt hc
    exact decode_four (c / 262144) (c / 4096) (c / 64) c c rest
      (Nat.div_lt_of_lt_mul (Nat.lt_trans hlt (by decide))) (base64_four c)
      (Nat.le_of_not_lt h2) hlt

theorem parseLitChars_plain (c : Nat) (l : List Nat) (h : isMeta c = false) :
    parseLitChars (c :: l) = (parseLitChars l).map (c :: ·) := by
  have hc : c ≠ 92 := fun e => absurd (e ▸ h) (by decide)
  cases l with
  | nil => simp [parseLitChars, h]
  | cons d l => simp [parseLitChars, h, hc]

theorem parseLitChars_escaped (c : Nat) (l : List Nat) (h : isMeta c = true) :
    parseLitChars (92 :: c :: l) = (parseLitChars l).map (c :: ·) := by
  simp [parseLitChars, h]

theorem hexVal_hexDigit (d : Nat) (h : d < 16) : hexVal (hexDigit d) = some d := by
  by_cases h10 : d < 10
  · rw [hexDigit, if_pos h10, hexVal,
      if_pos ⟨Nat.le_add_right 48 d, Nat.add_le_add_left (Nat.le_of_lt_succ h10) 48⟩,
      Nat.add_sub_cancel_left]
  · rw [hexDigit, if_neg h10, hexVal, if_neg (fun h' => absurd h'.2 (by omega)),
      if_pos ⟨Nat.add_le_add_left (Nat.le_of_not_lt h10) 87,
        Nat.add_le_add_left (Nat.le_of_lt_succ h) 87⟩,
      Nat.add_sub_cancel_left]

theorem hexDigit_ne_brace (d : Nat) (h : d < 16) : hexDigit d ≠ 125 := by
  unfold hexDigit; split <;> omega

theorem readHex_digit (f d a : Nat) (cs : List Nat) (h : d < 16) :
    readHex (f + 1) (hexDigit d :: cs) a = readHex f cs (a * 16 + d) := by
  rw [readHex, if_neg (hexDigit_ne_brace d h), hexVal_hexDigit d h]

/-- the round trip with accumulators: for `n < 16^j` (`1 ≤ j ≤ f`), `toHexAux f n acc` writes some
number `k ≤ j` of digits in front of `acc`, and reading them from accumulator `a` costs `k` units
of fuel and leaves `acc` to be read from accumulator `a * 16^k + n` -/
theorem readHex_toHexAux : ∀ (f j n : Nat) (acc : List Nat), 1 ≤ j → j ≤ f → n < 16 ^ j →
    ∃ k, k ≤ j ∧ ∀ m a, readHex (m + k) (toHexAux f n acc) a = readHex m acc (a * 16 ^ k + n)
  | 0, _, _, _, h1, h0, _ => absurd (Nat.le_trans h1 h0) (by decide)
  | f + 1, j + 1, n, acc, _, hf, hn => by
    unfold toHexAux
    split
    · rename_i h
      refine ⟨1, Nat.succ_le_succ (Nat.zero_le j), fun m a => ?_⟩
      rw [readHex_digit _ _ _ _ h, Nat.pow_one]
    · rename_i h
      have hn' : n / 16 < 16 ^ j := Nat.div_lt_of_lt_mul (by rwa [Nat.pow_succ, Nat.mul_comm] at hn)
      have hj : 1 ≤ j := by
        cases j with
        | zero => exact absurd hn h
        | succ j => exact Nat.succ_le_succ (Nat.zero_le j)
      obtain ⟨k, hk, ih⟩ :=
        readHex_toHexAux f j (n / 16) (hexDigit (n % 16) :: acc) hj (Nat.le_of_succ_le_succ hf) hn'
      refine ⟨k + 1, Nat.succ_le_succ hk, fun m a => ?_⟩
      rw [← Nat.add_assoc, Nat.add_right_comm, ih, readHex_digit _ _ _ _ (Nat.mod_lt n (by decide)),
        Nat.pow_succ, Nat.add_mul, Nat.add_assoc, Nat.div_add_mod' n 16, Nat.mul_assoc]

theorem toHexAux_append : ∀ (f n : Nat) (acc r : List Nat),
    toHexAux f n (acc ++ r) = toHexAux f n acc ++ r
  | 0, _, _, _ => rfl
  | f + 1, n, acc, r => by
    unfold toHexAux
    split
    · rfl
    · exact toHexAux_append f (n / 16) (hexDigit (n % 16) :: acc) r

theorem readHex_toHex (n : Nat) (hn : n < 16 ^ 6) (rest : List Nat) :
    readHex 7 (toHex n ++ 125 :: rest) 0 = some (n, rest) := by
  obtain ⟨k, hk, h⟩ := readHex_toHexAux 8 6 n (125 :: rest) (by decide) (by decide) hn
  obtain ⟨m, hm⟩ : ∃ m, 7 = (m + 1) + k := ⟨6 - k, by omega⟩
  rw [toHex, ← toHexAux_append, List.nil_append, hm, h, readHex, if_pos rfl, Nat.zero_mul,
    Nat.zero_add]

/-! One step of `readStrLit` on each form of text that `escDebugChar` produces. -/

theorem readStrLit_plain (f c : Nat) (cs : List Nat) (h34 : c ≠ 34) (h13 : c ≠ 13) (h92 : c ≠ 92) :
    readStrLit (f + 1) (c :: cs) = (readStrLit f cs).map fun r => (c :: r.1, r.2) := by
  conv => lhs; unfold readStrLit
  rw [if_neg h34, if_neg h13, if_neg h92]

/-- the simple escapes that `{:?}` uses: escape character and the character it stands for -/
theorem readStrLit_esc (f e v : Nat) (cs : List Nat)
    (h : (e, v) ∈ [(48, 0), (116, 9), (114, 13), (110, 10), (92, 92), (34, 34)]) :
    readStrLit (f + 1) (92 :: e :: cs) = (readStrLit f cs).map fun r => (v :: r.1, r.2) := by
  simp only [List.mem_cons, Prod.mk.injEq, List.not_mem_nil, or_false] at h
  rcases h with ⟨rfl, rfl⟩ | ⟨rfl, rfl⟩ | ⟨rfl, rfl⟩ | ⟨rfl, rfl⟩ | ⟨rfl, rfl⟩ | ⟨rfl, rfl⟩ <;> rfl

theorem readStrLit_esc_u (f v : Nat) (cs rest : List Nat) (h : readHex 7 cs 0 = some (v, rest))
    (hv : isScalar v = true) :
    readStrLit (f + 1) (92 :: 117 :: 123 :: cs) =
      (readStrLit f rest).map fun r => (v :: r.1, r.2) := by
  conv => lhs; unfold readStrLit
  -- the tests on the three literal bytes evaluate; `h` and `hv` settle the other two
  simp only [Nat.reduceEqDiff, ↓reduceIte, h, hv]

theorem escDebug_cons (uni : Nat → Bool) (c : Nat) (cs : List Nat) :
    escDebug uni (c :: cs) = escDebugChar uni c ++ escDebug uni cs :=
  List.flatMap_cons ..

/-- one character of `{:?}` output costs the lexer one unit of fuel and yields that character -/
theorem readStrLit_escDebugChar (uni : Nat → Bool) (c : Nat) (hc : isScalar c = true) (f : Nat)
    (tail : List Nat) :
    readStrLit (f + 1) (escDebugChar uni c ++ tail) =
      (readStrLit f tail).map fun r => (c :: r.1, r.2) := by
  unfold escDebugChar
  by_cases hs : c ∈ [0, 9, 13, 10, 92, 34]
  · simp only [List.mem_cons, List.not_mem_nil, or_false] at hs
    rcases hs with rfl | rfl | rfl | rfl | rfl | rfl <;> exact readStrLit_esc f _ _ tail (by decide)
  simp only [List.mem_cons, List.not_mem_nil, or_false, not_or] at hs
  obtain ⟨h0, h9, h13, h10, h92, h34⟩ := hs
  rw [if_neg h0, if_neg h9, if_neg h13, if_neg h10, if_neg h92, if_neg h34]
  cases uni c
  · exact readStrLit_plain f c tail h34 h13 h92
  · rw [if_pos rfl, List.append_assoc, List.append_assoc]
    exact readStrLit_esc_u f c (toHex c ++ 125 :: tail) tail
      (readHex_toHex c (Nat.lt_trans (isScalar_lt hc) (by decide)) tail) hc

/-- the lexer gets a character out of the text of every character, so that text is not empty -/
theorem escDebugChar_length_pos (uni : Nat → Bool) (c : Nat) (hc : isScalar c = true) :
    0 < (escDebugChar uni c).length := by
  cases e : escDebugChar uni c with
  | cons _ _ => exact Nat.succ_pos _
  | nil =>
    have h := readStrLit_escDebugChar uni c hc 0 [34]
    rw [e] at h
    cases h

end LalrpopModel.ReLit
