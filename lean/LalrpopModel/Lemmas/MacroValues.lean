import LalrpopModel.Model.Macro
/-!
Value semantics of the productions `expand_repeat_symbol` generates (`X+`, `X*`, `X?`), used by
Props/C13 `repeat_plus_values`, `repeat_star_values`, `option_values`.

The generated alternatives carry fixed action snippets; `snippet` gives their meaning on an
abstract value domain (trusted reading of six snippets of Rust). `Der` is derivation-with-values
over a table of generated nonterminals, with the repeated symbol `sym0` treated as a black box
(`base u x`: it derives the word `u` with value `x`).
-/

namespace LalrpopModel.Macro

inductive Val where
  | atom (n : Nat)
  | list (vs : List Val)     -- `Vec`
  | some (v : Val)           -- `Some(..)`
  | none                     -- `None`

def fNil : List Val → Option Val | [] => some (.list []) | _ => none
def fId : List Val → Option Val | [v] => some v | _ => none
def fSingle : List Val → Option Val | [x] => some (.list [x]) | _ => none
def fPush : List Val → Option Val | [.list vs, e] => some (.list (vs ++ [e])) | _ => none
def fSome : List Val → Option Val | [x] => some (.some x) | _ => none
def fNone : List Val → Option Val | [] => some .none | _ => none

/-- meaning of the action snippets written by `expand_repeat_symbol`, as functions of the values of
    the selected symbols (in order) -/
def snippet (code : String) : Option (List Val → Option Val) :=
  if code = "alloc::vec![]" then some fNil                              -- `X* = => alloc::vec![]`
  else if code = "v" then some fId                                        -- `X* = <v:X+> => v`
  else if code = "alloc::vec![<>]" then some fSingle                      -- `X+ = X => alloc::vec![<>]`
  else if code = "{ let mut v = v; v.push(e); v }" then some fPush        -- `X+ = <v:X+> <e:X>`
  else if code = "Some(<>)" then some fSome                               -- `X? = X => Some(<>)`
  else if code = "None" then some fNone                                   -- `X? = => None`
  else none

theorem snippet_nil : snippet "alloc::vec![]" = some fNil := by simp [snippet]
theorem snippet_id : snippet "v" = some fId := by simp [snippet]
theorem snippet_single : snippet "alloc::vec![<>]" = some fSingle := by simp [snippet]
theorem snippet_push : snippet "{ let mut v = v; v.push(e); v }" = some fPush := by simp [snippet]
theorem snippet_some : snippet "Some(<>)" = some fSome := by simp [snippet]
theorem snippet_none : snippet "None" = some fNone := by simp [snippet]

variable {Tk : Type}

/-- a symbol with its bindings (`<v:…>`) stripped -/
def core : Sym → Sym
  | .name _ _ s => core s
  | s => s

/-- derivations with values: `sym0` is a black box, a binding is transparent, a nonterminal of the
    table is expanded through one of its alternatives and the meaning of its action snippet -/
inductive Der (lookup : String → Option NtData) (sym0 : Sym) (base : List Tk → Val → Prop) :
    List Sym → List Tk → List Val → Prop where
  | nil : Der lookup sym0 base [] [] []
  | item {ss u x w xs} : base u x → Der lookup sym0 base ss w xs →
      Der lookup sym0 base (sym0 :: ss) (u ++ w) (x :: xs)
  | named {m n s ss w vs} : Der lookup sym0 base (s :: ss) w vs →
      Der lookup sym0 base (.name m n s :: ss) w vs
  | nt {k d a code f args u v ss w xs} : lookup k = some d → a ∈ d.alts → a.action = .user code →
      snippet code = some f → Der lookup sym0 base a.expr u args → f args = some v →
      Der lookup sym0 base ss w xs → Der lookup sym0 base (.nonterminal k :: ss) (u ++ w) (v :: xs)

/-- a nonempty sequence of items: the word is the concatenation, the value the `Vec` of the item
    values in input order -/
def PlusSpec (base : List Tk → Val → Prop) (u : List Tk) (v : Val) : Prop :=
  ∃ items : List (List Tk × Val), items ≠ [] ∧ (∀ p ∈ items, base p.1 p.2) ∧
    u = items.flatMap (·.1) ∧ v = .list (items.map (·.2))

/-- a possibly empty sequence -/
def StarSpec (base : List Tk → Val → Prop) (u : List Tk) (v : Val) : Prop :=
  ∃ items : List (List Tk × Val), (∀ p ∈ items, base p.1 p.2) ∧
    u = items.flatMap (·.1) ∧ v = .list (items.map (·.2))

/-- nothing (`None`) or one item (`Some`) -/
def OptSpec (base : List Tk → Val → Prop) (u : List Tk) (v : Val) : Prop :=
  (u = [] ∧ v = .none) ∨ ∃ x, base u x ∧ v = .some x

theorem der_singleton {lookup : String → Option NtData} {sym0 : Sym} {base : List Tk → Val → Prop}
    {ss w vs} (h : Der lookup sym0 base ss w vs) : Der lookup sym0 base (ss ++ []) (w ++ []) (vs ++ []) := by
  simpa using h

section
variable {lookup : String → Option NtData} {sym0 : Sym} {base : List Tk → Val → Prop}

theorem der_append {s1 w1 v1 s2 w2 v2} (h1 : Der lookup sym0 base s1 w1 v1)
    (h2 : Der lookup sym0 base s2 w2 v2) : Der lookup sym0 base (s1 ++ s2) (w1 ++ w2) (v1 ++ v2) := by
  induction h1 with
  | nil => exact h2
  | item hb _ ih => rw [List.append_assoc]; exact .item hb ih
  | named _ ih => exact .named ih
  | nt hl ha hc hf hd hv _ _ ih2 => rw [List.append_assoc]; exact .nt hl ha hc hf hd hv ih2

theorem der_item {u x} (hb : base u x) : Der lookup sym0 base [sym0] u [x] :=
  List.append_nil u ▸ Der.item hb .nil

theorem der_single {k d expr code f args u v} (hl : lookup k = some d)
    (ha : userAlt expr code ∈ d.alts) (hf : snippet code = some f)
    (hd : Der lookup sym0 base expr u args) (hv : f args = some v) :
    Der lookup sym0 base [.nonterminal k] u [v] :=
  List.append_nil u ▸ Der.nt hl ha rfl hf hd hv .nil

end

section
variable (lookup : String → Option NtData) (spec : String → Option (List Tk → Val → Prop))
  (sym0 : Sym) (base : List Tk → Val → Prop)

/-- what a derivation may produce for one symbol: an item, or what the specification of a table
    entry allows (the item symbol is not itself an entry: otherwise `Der` is ambiguous) -/
def GoodSym (s : Sym) (u : List Tk) (x : Val) : Prop :=
  (core s = sym0 ∧ base u x) ∨
    ∃ k P, core s = .nonterminal k ∧ sym0 ≠ .nonterminal k ∧ spec k = some P ∧ P u x

def Good : List Sym → List Tk → List Val → Prop
  | [], w, vs => w = [] ∧ vs = []
  | s :: ss, w, vs => ∃ u w' x xs, w = u ++ w' ∧ vs = x :: xs ∧ GoodSym spec sym0 base s u x ∧
      Good ss w' xs

def AltSound (P : List Tk → Val → Prop) (a : Alt) : Prop :=
  ∀ code f args u v, a.action = .user code → snippet code = some f →
    Good spec sym0 base a.expr u args → f args = some v → P u v

/-- soundness of a specification table: the item symbol is not an entry, and every alternative of
    every entry is sound for the entry's specification -/
def Sound : Prop :=
  ∀ k d, lookup k = some d → sym0 ≠ .nonterminal k ∧
    ∃ P, spec k = some P ∧ ∀ a ∈ d.alts, AltSound spec sym0 base P a

end

section
variable {lookup : String → Option NtData} {spec : String → Option (List Tk → Val → Prop)}
  {sym0 : Sym} {base : List Tk → Val → Prop}

theorem altSound_user {P : List Tk → Val → Prop} {expr code f} (hf : snippet code = some f)
    (H : ∀ args u v, Good spec sym0 base expr u args → f args = some v → P u v) :
    AltSound spec sym0 base P (userAlt expr code) := by
  intro code' f' args u v hc hf' hg hv
  cases hc
  rw [hf] at hf'
  cases hf'
  exact H args u v hg hv

theorem sound_empty : Sound (fun _ => none) spec sym0 base :=
  fun _ _ h => nomatch h

/-- tables are written as chains of `if k = k0 then some d0 else …` -/
theorem sound_cons {k0 d0} {P : List Tk → Val → Prop} (hne : sym0 ≠ .nonterminal k0)
    (hP : spec k0 = some P) (ha : ∀ a ∈ d0.alts, AltSound spec sym0 base P a)
    (hs : Sound lookup spec sym0 base) :
    Sound (fun k => if k = k0 then some d0 else lookup k) spec sym0 base := by
  intro k d hl
  replace hl : (if k = k0 then some d0 else lookup k) = some d := hl
  by_cases hk : k = k0
  · rw [if_pos hk] at hl
    cases hl
    exact hk ▸ ⟨hne, P, hP, ha⟩
  · rw [if_neg hk] at hl
    exact hs k d hl

theorem der_good (hcore : core sym0 = sym0) (hs : Sound lookup spec sym0 base) {syms w vs}
    (h : Der lookup sym0 base syms w vs) : Good spec sym0 base syms w vs := by
  induction h with
  | nil => exact ⟨rfl, rfl⟩
  | item hb _ ih => exact ⟨_, _, _, _, rfl, rfl, .inl ⟨hcore, hb⟩, ih⟩
  | named _ ih => exact ih
  | nt hl ha hc hf _ hv _ ih1 ih2 =>
    obtain ⟨hne, P, hP, hall⟩ := hs _ _ hl
    exact ⟨_, _, _, _, rfl, rfl, .inr ⟨_, P, rfl, hne, hP, hall _ ha _ _ _ _ _ hc hf ih1 hv⟩, ih2⟩

theorem good_singleton {s : Sym} {w vs} (h : Good spec sym0 base [s] w vs) :
    ∃ x, vs = [x] ∧ GoodSym spec sym0 base s w x := by
  obtain ⟨u, w', x, xs, rfl, rfl, hg, rfl, rfl⟩ := h
  exact ⟨x, rfl, by rwa [List.append_nil]⟩

theorem goodSym_base {s : Sym} {u x} (h : GoodSym spec sym0 base s u x) (hs : core s = sym0) :
    base u x := by
  rcases h with ⟨_, hb⟩ | ⟨k, P, hk, hne, _⟩
  · exact hb
  · exact absurd (hs.symm.trans hk) hne

theorem goodSym_nt {s : Sym} {u x} {k : String} {P : List Tk → Val → Prop}
    (h : GoodSym spec sym0 base s u x) (hs : core s = .nonterminal k) (hne : sym0 ≠ .nonterminal k)
    (hP : spec k = some P) : P u x := by
  rcases h with ⟨hc, _⟩ | ⟨k', P', hk, _, hsp, hP'⟩
  · exact absurd (hc.symm.trans hs) hne
  · rw [hs] at hk
    cases hk
    rw [hP] at hsp
    cases hsp
    exact hP'

theorem der_nt_spec (hcore : core sym0 = sym0) (hs : Sound lookup spec sym0 base) {k}
    {P : List Tk → Val → Prop} (hP : spec k = some P) (hne : sym0 ≠ .nonterminal k) {w v}
    (h : Der lookup sym0 base [.nonterminal k] w [v]) : P w v := by
  obtain ⟨x, hx, hg⟩ := good_singleton (der_good hcore hs h)
  cases hx
  exact goodSym_nt hg rfl hne hP

end

end LalrpopModel.Macro
