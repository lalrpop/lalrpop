import LalrpopModel.Lemmas.PrecReplace
/-!
The level/associativity fold of `expand_nonterm` (`annotate`) in closed form: what an
alternative declares itself (`ownLevel`, `ownAssoc`), what it inherits, and which attributes
are stripped.
-/
namespace LalrpopModel.Prec
open LalrpopModel.PT

theorem removeFirst_eq (p : Attr → Bool) (l : List Attr) :
    removeFirst p l = (l.find? p).map (fun a => (a, l.eraseP p)) := by
  induction l with
  | nil => rfl
  | cons a as ih =>
    simp only [removeFirst, List.find?_cons, List.eraseP_cons]
    cases h : p a with
    | true => simp
    | false =>
      simp only [ih]
      cases as.find? p <;> simp

theorem find?_eraseP_of_disjoint (p q : Attr → Bool) (l : List Attr)
    (h : ∀ a, p a = true → q a = false) : (l.eraseP p).find? q = l.find? q := by
  induction l with
  | nil => rfl
  | cons a as ih =>
    simp only [List.eraseP_cons]
    cases hp : p a with
    | true => simp [h a hp]
    | false => simp [List.find?_cons, ih]

abbrev isPrec : Attr → Bool := fun a => a.id = PREC_ATTR
abbrev isAssoc : Attr → Bool := fun a => a.id = ASSOC_ATTR

theorem isPrec_not_isAssoc (a : Attr) (h : isPrec a = true) : isAssoc a = false :=
  decide_eq_false fun e => absurd ((of_decide_eq_true h).symm.trans e) (by decide)

def precAttr (alt : Alt) : Option Attr := alt.attrs.find? isPrec
def assocAttr (alt : Alt) : Option Attr := alt.attrs.find? isAssoc

/-- value of the first argument `key = "value"` of an attribute (the key is not looked at here) -/
def argValue (a : Attr) : Option Str := a.getArgEqual.map (·.2)

def ownLevel (alt : Alt) : Option Nat := (precAttr alt).bind fun p => (argValue p).bind parseU32
def ownAssoc (alt : Alt) : Option Assoc := (assocAttr alt).bind fun p => (argValue p).bind Assoc.parse

def stripAttrs (alt : Alt) : Alt :=
  { alt with attrs := (alt.attrs.eraseP isPrec).eraseP isAssoc }

/-- an alternative's annotations can be read: every attribute that is present has a parsable value -/
def Readable (alt : Alt) : Prop :=
  ((precAttr alt).isSome → (ownLevel alt).isSome) ∧ ((assocAttr alt).isSome → (ownAssoc alt).isSome)

/-- effective level/associativity of an alternative given those of its predecessor -/
def effLevel (prevLvl : Nat) (alt : Alt) : Nat := (ownLevel alt).getD prevLvl
def effAssoc (prevAssoc : Assoc) (alt : Alt) : Assoc :=
  (ownAssoc alt).getD (if (precAttr alt).isSome then .fullyAssoc else prevAssoc)

theorem effLevel_of_no_precAttr (l0 : Nat) (alt : Alt) (h : precAttr alt = none) : effLevel l0 alt = l0 := by
  rw [effLevel, ownLevel, h]
  rfl

theorem effAssoc_of_no_assocAttr (a0 : Assoc) (alt : Alt) (h : assocAttr alt = none) :
    effAssoc a0 alt = if (precAttr alt).isSome then .fullyAssoc else a0 := by
  rw [effAssoc, ownAssoc, h]
  rfl

theorem takeLevel_ok_iff (l0 : Nat) (a0 : Assoc) (alt : Alt) (r : Nat × Assoc × List Attr) :
    takeLevel l0 a0 alt.attrs = .ok r ↔
      ((precAttr alt).isSome → (ownLevel alt).isSome) ∧
      r = (effLevel l0 alt, if (precAttr alt).isSome then .fullyAssoc else a0, alt.attrs.eraseP isPrec) := by
  unfold takeLevel effLevel ownLevel precAttr argValue
  rw [removeFirst_eq]
  cases hp : alt.attrs.find? isPrec with
  | none =>
    rw [List.eraseP_of_forall_not (List.find?_eq_none.mp hp)]
    exact ⟨fun h => ⟨nofun, (Except.ok.inj h).symm⟩, fun h => congrArg _ h.2.symm⟩
  | some p =>
    dsimp only [Option.map_some, Option.bind_some]
    cases hg : p.getArgEqual with
    | none => exact ⟨nofun, fun h => nomatch h.1 rfl⟩
    | some kv =>
      dsimp only [Option.map_some, Option.bind_some]
      cases hl : parseU32 kv.2 with
      | none => exact ⟨nofun, fun h => nomatch h.1 rfl⟩
      | some l => exact ⟨fun h => ⟨fun _ => rfl, (Except.ok.inj h).symm⟩, fun h => congrArg _ h.2.symm⟩

theorem takeAssoc_ok_iff (a0 : Assoc) (alt : Alt) (r : Assoc × List Attr) :
    takeAssoc a0 alt.attrs = .ok r ↔
      ((assocAttr alt).isSome → (ownAssoc alt).isSome) ∧
      r = ((ownAssoc alt).getD a0, alt.attrs.eraseP isAssoc) := by
  unfold takeAssoc ownAssoc assocAttr argValue
  rw [removeFirst_eq]
  cases hp : alt.attrs.find? isAssoc with
  | none =>
    rw [List.eraseP_of_forall_not (List.find?_eq_none.mp hp)]
    exact ⟨fun h => ⟨nofun, (Except.ok.inj h).symm⟩, fun h => congrArg _ h.2.symm⟩
  | some p =>
    dsimp only [Option.map_some, Option.bind_some]
    cases hg : p.getArgEqual with
    | none => exact ⟨nofun, fun h => nomatch h.1 rfl⟩
    | some kv =>
      dsimp only [Option.map_some, Option.bind_some]
      cases hl : Assoc.parse kv.2 with
      | none => exact ⟨nofun, fun h => nomatch h.1 rfl⟩
      | some l => exact ⟨fun h => ⟨fun _ => rfl, (Except.ok.inj h).symm⟩, fun h => congrArg _ h.2.symm⟩

/-- the alternative `takeAssoc` sees: its first `precedence` attribute is gone -/
def erasePrec (alt : Alt) : Alt := { alt with attrs := alt.attrs.eraseP isPrec }

theorem assocAttr_erasePrec (alt : Alt) : assocAttr (erasePrec alt) = assocAttr alt :=
  find?_eraseP_of_disjoint isPrec isAssoc alt.attrs isPrec_not_isAssoc

theorem ownAssoc_erasePrec (alt : Alt) : ownAssoc (erasePrec alt) = ownAssoc alt :=
  congrArg (·.bind fun p => (argValue p).bind Assoc.parse) (assocAttr_erasePrec alt)

theorem annotStep_ok_iff (l0 : Nat) (a0 : Assoc) (alt : Alt) (a : Ann) :
    annotStep l0 a0 alt = .ok a ↔
      Readable alt ∧ a = { lvl := effLevel l0 alt, assoc := effAssoc a0 alt, alt := stripAttrs alt } := by
  unfold annotStep
  constructor
  · intro h
    split at h
    · cases h
    · rename_i h1
      obtain ⟨c1, e⟩ := (takeLevel_ok_iff l0 a0 alt _).mp h1
      cases e
      split at h
      · cases h
      · rename_i h2
        obtain ⟨c2, e⟩ := (takeAssoc_ok_iff _ (erasePrec alt) _).mp h2
        cases e
        rw [assocAttr_erasePrec, ownAssoc_erasePrec] at c2
        rw [ownAssoc_erasePrec] at h
        exact ⟨⟨c1, c2⟩, (Except.ok.inj h).symm⟩
  · rintro ⟨⟨c1, c2⟩, rfl⟩
    rw [(takeLevel_ok_iff l0 a0 alt _).mpr ⟨c1, rfl⟩]
    dsimp only
    have c2' := (takeAssoc_ok_iff (if (precAttr alt).isSome then .fullyAssoc else a0) (erasePrec alt) _).mpr
      ⟨by rw [assocAttr_erasePrec, ownAssoc_erasePrec]; exact c2, rfl⟩
    rw [ownAssoc_erasePrec] at c2'
    rw [show takeAssoc _ (alt.attrs.eraseP isPrec) = _ from c2']
    rfl

/-- the declarative counterpart of the fold: each alternative with its effective annotation -/
def inherit : Nat → Assoc → List Alt → List Ann
  | _, _, [] => []
  | l0, a0, alt :: alts =>
    { lvl := effLevel l0 alt, assoc := effAssoc a0 alt, alt := stripAttrs alt } ::
      inherit (effLevel l0 alt) (effAssoc a0 alt) alts

theorem annotate_ok_iff (l0 : Nat) (a0 : Assoc) (alts : List Alt) (anns : List Ann) :
    annotate l0 a0 alts = .ok anns ↔ (∀ alt ∈ alts, Readable alt) ∧ anns = inherit l0 a0 alts := by
  induction alts generalizing l0 a0 anns with
  | nil => exact ⟨fun h => ⟨nofun, (Except.ok.inj h).symm⟩, fun h => congrArg _ h.2.symm⟩
  | cons alt alts ih =>
    simp only [annotate, inherit]
    constructor
    · intro h
      split at h
      · cases h
      · rename_i a hs
        obtain ⟨hr, rfl⟩ := (annotStep_ok_iff l0 a0 alt a).mp hs
        split at h
        · cases h
        · rename_i rest hrest
          obtain ⟨hrs, rfl⟩ := (ih _ _ rest).mp hrest
          exact ⟨List.forall_mem_cons.mpr ⟨hr, hrs⟩, (Except.ok.inj h).symm⟩
    · rintro ⟨hr, rfl⟩
      rw [(annotStep_ok_iff l0 a0 alt _).mpr ⟨hr alt List.mem_cons_self, rfl⟩]
      dsimp only
      rw [(ih _ _ _).mpr ⟨fun x hx => hr x (List.mem_cons_of_mem _ hx), rfl⟩]

theorem annotate_readable (l0 : Nat) (a0 : Assoc) (alts : List Alt) (h : ∀ alt ∈ alts, Readable alt) :
    annotate l0 a0 alts = .ok (inherit l0 a0 alts) :=
  (annotate_ok_iff l0 a0 alts _).mpr ⟨h, rfl⟩

theorem inherit_map_alt (l0 : Nat) (a0 : Assoc) (alts : List Alt) :
    (inherit l0 a0 alts).map (·.alt) = alts.map stripAttrs := by
  induction alts generalizing l0 a0 with
  | nil => rfl
  | cons alt alts ih => simp only [inherit, List.map_cons, ih]

theorem inherit_getElem?_succ (l0 : Nat) (a0 : Assoc) (alts : List Alt) (j : Nat) (p : Ann) (alt : Alt)
    (hp : (inherit l0 a0 alts)[j]? = some p) (h : alts[j + 1]? = some alt) :
    (inherit l0 a0 alts)[j + 1]? =
      some { lvl := effLevel p.lvl alt, assoc := effAssoc p.assoc alt, alt := stripAttrs alt } := by
  induction alts generalizing l0 a0 j with
  | nil => cases h
  | cons x xs ih =>
    cases j with
    | succ j => exact ih _ _ j hp h
    | zero =>
      cases hp
      cases xs with
      | nil => cases h
      | cons y ys => cases h; rfl

theorem inherit_length (l0 : Nat) (a0 : Assoc) (alts : List Alt) :
    (inherit l0 a0 alts).length = alts.length := by
  have := congrArg List.length (inherit_map_alt l0 a0 alts)
  simpa only [List.length_map] using this

theorem inherit_noAmbig (l0 : Nat) (a0 : Assoc) (alts : List Alt)
    (h : ∀ alt ∈ alts, noAmbigL alt.expr = true) : ∀ a ∈ inherit l0 a0 alts, noAmbigL a.alt.expr = true := by
  intro a ha
  have hm : a.alt ∈ alts.map stripAttrs := inherit_map_alt l0 a0 alts ▸ List.mem_map_of_mem ha
  obtain ⟨alt, halt, e⟩ := List.mem_map.mp hm
  rw [← e]
  exact h alt halt

end LalrpopModel.Prec
