import LalrpopModel.Model.Lower
/-!
Lemmas about the selection part of M-LOWER: `analyze_expr` (`namedFrom`, `chosenFrom`,
`enumFrom` as instances of one enumerate-and-filter, membership, source order, classification
by kinds) and `patterns` (`patternsGo` tabulates the selection).
-/
namespace LalrpopModel.Lower
variable {B : Type}

/-- the surface kind of a symbol, all that `analyze_expr`'s classification looks at -/
inductive SymKind where
  | plain | chosen | named
  deriving DecidableEq, Repr

def Sym.kind : Sym B → SymKind
  | .choose _ => .chosen
  | .named _ _ => .named
  | .tupled _ _ => .named
  | _ => .plain

/-- the pattern and the inner symbol of a `Name`/`Tuple` symbol -/
def Sym.binding? : Sym B → Option (ArgPattern × Sym B)
  | .named n s => some (.name n, s)
  | .tupled ps s => some (.tuple ps, s)
  | _ => none

def Sym.chosen? : Sym B → Option (Sym B)
  | .choose s => some s
  | _ => none

/-- `iter().enumerate().filter_map(f)` with the enumeration starting at `i` -/
def filterFrom {α : Type} (f : Sym B → Option α) : Nat → List (Sym B) → List (Nat × α)
  | _, [] => []
  | i, x :: rest =>
    match f x with
    | some a => (i, a) :: filterFrom f (i + 1) rest
    | none => filterFrom f (i + 1) rest

theorem namedFrom_eq (i : Nat) (syms : List (Sym B)) : namedFrom i syms = filterFrom Sym.binding? i syms := by
  induction syms generalizing i with
  | nil => rfl
  | cons x rest ih => cases x <;> simp only [namedFrom, filterFrom, Sym.binding?, ih]

theorem chosenFrom_eq (i : Nat) (syms : List (Sym B)) : chosenFrom i syms = filterFrom Sym.chosen? i syms := by
  induction syms generalizing i with
  | nil => rfl
  | cons x rest ih => cases x <;> simp only [chosenFrom, filterFrom, Sym.chosen?, ih]

theorem enumFrom_eq (i : Nat) (syms : List (Sym B)) : enumFrom i syms = filterFrom some i syms := by
  induction syms generalizing i with
  | nil => rfl
  | cons x rest ih => simp only [enumFrom, filterFrom, ih]

theorem filterFrom_keys_sublist {α : Type} (f : Sym B → Option α) (i : Nat) (syms : List (Sym B)) :
    ((filterFrom f i syms).map (·.1)).Sublist (List.range' i syms.length) := by
  induction syms generalizing i with
  | nil => exact List.Sublist.slnil
  | cons x rest ih =>
    rw [List.length_cons, List.range'_succ]
    simp only [filterFrom]
    cases f x with
    | none => exact (ih (i + 1)).cons _
    | some a => exact (ih (i + 1)).cons_cons _

/-- indices come out strictly increasing: source order -/
theorem filterFrom_sorted {α : Type} (f : Sym B → Option α) (i : Nat) (syms : List (Sym B)) :
    (filterFrom f i syms).Pairwise (fun a b => a.1 < b.1) :=
  List.pairwise_map.1 ((List.pairwise_lt_range' 1).sublist (filterFrom_keys_sublist f i syms))

theorem filterFrom_eq_filterMap {α : Type} (f : Sym B → Option α) (i : Nat) (syms : List (Sym B)) :
    filterFrom f i syms = (syms.zipIdx i).filterMap fun p => (f p.1).map (p.2, ·) := by
  induction syms generalizing i with
  | nil => rfl
  | cons x rest ih =>
    rw [List.zipIdx_cons, List.filterMap_cons, filterFrom, ih]
    cases f x <;> rfl

theorem filterFrom_mem {α : Type} (f : Sym B → Option α) (syms : List (Sym B)) (j : Nat) (a : α) :
    (j, a) ∈ filterFrom f 0 syms ↔ ∃ x, syms[j]? = some x ∧ f x = some a := by
  rw [filterFrom_eq_filterMap, List.mem_filterMap]
  constructor
  · rintro ⟨⟨x, k⟩, hm, hg⟩
    rw [List.mem_zipIdx_iff_getElem?] at hm
    cases hf : f x with
    | none => rw [hf] at hg; cases hg
    | some b => rw [hf] at hg; cases hg; exact ⟨x, hm, hf⟩
  · rintro ⟨x, hx, hf⟩
    exact ⟨(x, j), List.mem_zipIdx_iff_getElem?.2 hx, by rw [hf]; rfl⟩

theorem filterFrom_isEmpty {α : Type} (f : Sym B → Option α) (i : Nat) (syms : List (Sym B)) :
    (filterFrom f i syms).isEmpty = !syms.any (fun x => (f x).isSome) := by
  induction syms generalizing i with
  | nil => rfl
  | cons x rest ih =>
    simp only [filterFrom, List.any_cons]
    cases f x with
    | none => simp [ih]
    | some b => simp

theorem filterFrom_length_some (i : Nat) (syms : List (Sym B)) :
    (filterFrom some i syms).length = syms.length := by
  induction syms generalizing i with
  | nil => simp [filterFrom]
  | cons x rest ih => simp [filterFrom, ih]

inductive SelClass where
  | named       -- the named/tuple symbols
  | chosen      -- the `<X>` symbols
  | all         -- every symbol
  deriving DecidableEq, Repr

/-- which selection rule applies, from the kinds alone -/
def classify (kinds : List SymKind) : SelClass :=
  if kinds.any (· = .named) then .named
  else if kinds.any (· = .chosen) then .chosen
  else .all

theorem classify_perm {k1 k2 : List SymKind} (h : k1.Perm k2) : classify k1 = classify k2 := by
  simp only [classify, h.any_eq]

theorem kind_named_comp :
    (fun k => decide (k = SymKind.named)) ∘ Sym.kind = fun x : Sym B => x.binding?.isSome :=
  funext fun x => by cases x <;> rfl

theorem kind_chosen_comp :
    (fun k => decide (k = SymKind.chosen)) ∘ Sym.kind = fun x : Sym B => x.chosen?.isSome :=
  funext fun x => by cases x <;> rfl

/-- `analyze_expr` by the classification: which rule applies depends on the kinds present only -/
theorem analyzeExpr_cases (syms : List (Sym B)) :
    (classify (syms.map Sym.kind) = .named ∧
      analyzeExpr syms = .named (filterFrom Sym.binding? 0 syms)) ∨
    (classify (syms.map Sym.kind) = .chosen ∧
      analyzeExpr syms = .anon (filterFrom Sym.chosen? 0 syms)) ∨
    (classify (syms.map Sym.kind) = .all ∧ analyzeExpr syms = .anon (filterFrom some 0 syms)) := by
  simp only [analyzeExpr, classify, List.any_map, kind_named_comp, kind_chosen_comp, namedFrom_eq,
    chosenFrom_eq, enumFrom_eq, filterFrom_isEmpty, Bool.not_not]
  split
  · exact .inl ⟨rfl, rfl⟩
  · split
    · exact .inr (.inl ⟨rfl, rfl⟩)
    · exact .inr (.inr ⟨rfl, rfl⟩)

/-- the pattern the selection assigns to argument `j`: the chosen one, `_` otherwise -/
def patAt : List (Nat × ArgPattern) → Nat → ArgPattern
  | [], _ => blank
  | (ci, p) :: rest, j => if ci = j then p else patAt rest j

/-- `f i, f (i + 1), …`, `n` entries, with the recursion of `patternsGo`
    (`tabulateFrom_eq_map`: it is `(List.range' i n).map f`) -/
def tabulateFrom (f : Nat → ArgPattern) : Nat → Nat → List ArgPattern
  | _, 0 => []
  | i, n + 1 => f i :: tabulateFrom f (i + 1) n

theorem patAt_cons_ne (ci : Nat) (p : ArgPattern) (rest : List (Nat × ArgPattern)) (j : Nat) (h : ci ≠ j) :
    patAt ((ci, p) :: rest) j = patAt rest j := if_neg h

theorem patAt_cons_eq (ci : Nat) (p : ArgPattern) (rest : List (Nat × ArgPattern)) :
    patAt ((ci, p) :: rest) ci = p := if_pos rfl

theorem patAt_of_mem (chosen : List (Nat × ArgPattern)) (h : chosen.Pairwise (fun a b => a.1 < b.1))
    (j : Nat) (p : ArgPattern) (hm : (j, p) ∈ chosen) : patAt chosen j = p := by
  induction chosen with
  | nil => cases hm
  | cons e rest ih =>
    obtain ⟨ci, q⟩ := e
    rw [List.pairwise_cons] at h
    rcases List.mem_cons.1 hm with h' | h'
    · cases h'; exact patAt_cons_eq _ _ _
    · rw [patAt_cons_ne _ _ _ _ (Nat.ne_of_lt (h.1 _ h'))]
      exact ih h.2 h'

theorem patAt_of_not_mem (chosen : List (Nat × ArgPattern)) (j : Nat) (h : ∀ p, (j, p) ∉ chosen) :
    patAt chosen j = blank := by
  induction chosen with
  | nil => rfl
  | cons e rest ih =>
    obtain ⟨ci, q⟩ := e
    have hne : ci ≠ j := fun hc => h q (hc ▸ List.mem_cons_self)
    rw [patAt_cons_ne _ _ _ _ hne]
    exact ih (fun p hp => h p (List.mem_cons_of_mem _ hp))

/-- selections handed to `patterns` by `action_fn`: strictly increasing argument indices below
    the number of arguments -/
def SortedBelow (chosen : List (Nat × ArgPattern)) (lo hi : Nat) : Prop :=
  chosen.Pairwise (fun a b => a.1 < b.1) ∧ ∀ e ∈ chosen, lo ≤ e.1 ∧ e.1 < hi

theorem sortedBelow_cons (ci : Nat) (p : ArgPattern) (rest : List (Nat × ArgPattern)) (lo hi : Nat) :
    SortedBelow ((ci, p) :: rest) lo hi ↔ (lo ≤ ci ∧ ci < hi) ∧ SortedBelow rest (ci + 1) hi := by
  unfold SortedBelow
  rw [List.pairwise_cons, List.forall_mem_cons]
  constructor
  · rintro ⟨⟨hlt, hp⟩, hci, hb⟩
    exact ⟨hci, hp, fun e he => ⟨hlt e he, (hb e he).2⟩⟩
  · rintro ⟨hci, hp, hb⟩
    exact ⟨⟨fun e he => (hb e he).1, hp⟩, hci,
      fun e he => ⟨Nat.le_trans hci.1 (Nat.le_of_succ_le (hb e he).1), (hb e he).2⟩⟩

theorem sortedBelow_of_keys (l : List (Nat × ArgPattern)) (lo n : Nat)
    (h : (l.map (·.1)).Sublist (List.range' lo n)) : SortedBelow l lo (lo + n) :=
  ⟨List.pairwise_map.1 ((List.pairwise_lt_range' 1).sublist h),
    fun _ he => List.mem_range'_1.1 (h.subset (List.mem_map_of_mem he))⟩

theorem tabulateFrom_eq_map (f : Nat → ArgPattern) (i n : Nat) :
    tabulateFrom f i n = (List.range' i n).map f := by
  induction n generalizing i with
  | zero => rfl
  | succ n ih => rw [tabulateFrom, ih, List.range'_succ, List.map_cons]

theorem tabulateFrom_length (f : Nat → ArgPattern) (i n : Nat) : (tabulateFrom f i n).length = n := by
  rw [tabulateFrom_eq_map, List.length_map, List.length_range']

theorem tabulateFrom_getElem? (f : Nat → ArgPattern) (i n k : Nat) (hk : k < n) :
    (tabulateFrom f i n)[k]? = some (f (i + k)) := by
  rw [tabulateFrom_eq_map, List.getElem?_map, List.getElem?_range' hk, Nat.one_mul]
  rfl

theorem tabulateFrom_congr (f g : Nat → ArgPattern) (i n : Nat)
    (h : ∀ j, i ≤ j → f j = g j) : tabulateFrom f i n = tabulateFrom g i n := by
  rw [tabulateFrom_eq_map, tabulateFrom_eq_map]
  exact List.map_congr_left fun j hj => h j (List.mem_range'_1.1 hj).1

theorem patternsGo_spec (chosen : List (Nat × ArgPattern)) (index n : Nat)
    (h : SortedBelow chosen index (index + n)) :
    patternsGo chosen index n = (tabulateFrom (patAt chosen) index n, []) := by
  -- the upper end `hi` of the window stays, its lower end moves with `index`
  generalize hhi : index + n = hi at h
  induction n generalizing chosen index with
  | zero =>
    cases chosen with
    | nil => rfl
    | cons e rest => exact absurd (h.2 e List.mem_cons_self) (by omega)
  | succ n ih =>
    have hw : index + 1 + n = hi := by omega
    cases chosen with
    | nil =>
      rw [patternsGo, ih [] (index + 1) hw ⟨List.Pairwise.nil, List.forall_mem_nil _⟩]
      rfl
    | cons e rest =>
      obtain ⟨ci, p⟩ := e
      obtain ⟨⟨hlo, hlt⟩, hrest⟩ := (sortedBelow_cons ci p rest _ _).1 h
      by_cases hci : ci = index
      · subst hci
        rw [patternsGo, if_pos rfl, ih rest (ci + 1) hw hrest, tabulateFrom, patAt_cons_eq,
          tabulateFrom_congr (patAt ((ci, p) :: rest)) (patAt rest) (ci + 1) n
            (fun j h1 => patAt_cons_ne _ _ _ _ (Nat.ne_of_lt h1))]
      · have hall : SortedBelow ((ci, p) :: rest) (index + 1) hi :=
          (sortedBelow_cons ci p rest _ _).2 ⟨⟨Nat.lt_of_le_of_ne hlo (Ne.symm hci), hlt⟩, hrest⟩
        -- every selected position is beyond `index`
        rw [patternsGo, if_neg hci, ih _ (index + 1) hw hall, tabulateFrom,
          patAt_of_not_mem _ index fun _ hp => Nat.lt_irrefl _ (hall.2 _ hp).1]

theorem patterns_of_sorted (chosen : List (Nat × ArgPattern)) (n : Nat) (h : SortedBelow chosen 0 n) :
    patterns chosen n = some (tabulateFrom (patAt chosen) 0 n) := by
  rw [patterns, patternsGo_spec chosen 0 n (by rwa [Nat.zero_add])]

end LalrpopModel.Lower
