import LalrpopModel.Model.LR.Validate
/-!
Soundness of the model driver: the stack invariant (`Path`, `TreesOK`, `ItemAt`) and list/forest lemmas.
-/
namespace LalrpopModel.LR

/-- the terminal an error node stands for (the last terminal, only with recovery on) -/
def errT (T : Tables) : Option Term := if T.usesRecovery then some (T.nTerm - 1) else none

mutual
def Tree.hasErr : Tree → Bool
  | .leaf _ => false
  | .node _ _ _ ks => ks.hasErr
  | .err _ _ => true
def Forest.hasErr : Forest → Bool
  | .nil => false
  | .cons t ts => t.hasErr || ts.hasErr
end

/-- the tokens of a stream (error items left out) -/
def itemToks : List Item → List Tok
  | [] => []
  | .tok t :: r => t :: itemToks r
  | .err _ :: r => itemToks r

@[simp] theorem itemToks_nil : itemToks [] = [] := rfl
@[simp] theorem itemToks_tok (t : Tok) (r : List Item) : itemToks (.tok t :: r) = t :: itemToks r := rfl
@[simp] theorem itemToks_err (e : Nat) (r : List Item) : itemToks (.err e :: r) = itemToks r := rfl

theorem itemToks_append (a b : List Item) : itemToks (a ++ b) = itemToks a ++ itemToks b := by
  induction a with
  | nil => rfl
  | cons x a ih => cases x <;> simp [ih]

@[simp] theorem itemToks_map_tok (l : List Tok) : itemToks (l.map Item.tok) = l := by
  induction l with
  | nil => rfl
  | cons x l ih => simp [ih]

theorem Forest.yield_ofList_append (l : List Tree) (t : Tree) :
    (Forest.ofList (l ++ [t])).yield = (Forest.ofList l).yield ++ t.yield := by
  induction l with
  | nil => simp [Forest.ofList, Forest.yield]
  | cons a l ih => simp [Forest.ofList, Forest.yield, ih]

theorem Forest.wf_snoc {G : Grammar} {e : Option Term} :
    ∀ (l : List Tree) (Xs : List Sym) (t : Tree) (X : Sym),
      Forest.WF G e (Forest.ofList l) Xs → Tree.WF G e t → t.root G e = some X →
      Forest.WF G e (Forest.ofList (l ++ [t])) (Xs ++ [X])
  | [], Xs, t, X, h, ht, hr => by
    simp only [Forest.ofList] at h
    cases h
    exact .cons _ _ _ _ ht hr .nil
  | a :: l, Xs, t, X, h, ht, hr => by
    simp only [Forest.ofList] at h
    cases h with
    | cons _ _ Y Ys h1 h2 h3 =>
      exact .cons _ _ _ _ h1 h2 (Forest.wf_snoc l Ys t X h3 ht hr)

mutual
theorem Tree.wf_none_noErr {G : Grammar} : (t : Tree) → Tree.WF G none t → t.hasErr = false
  | .leaf _, _ => rfl
  | .node _ _ _ ks, h => by
    cases h with
    | node _ _ _ pr _ _ hks => exact Forest.wf_none_noErr ks hks
  | .err _ _, h => by
    cases h with
    | err _ _ k hk => cases hk
theorem Forest.wf_none_noErr {G : Grammar} : (f : Forest) → {Xs : List Sym} → Forest.WF G none f Xs → f.hasErr = false
  | .nil, _, _ => rfl
  | .cons t ts, _, h => by
    cases h with
    | cons _ _ _ _ h1 _ h3 =>
      rw [Forest.hasErr, Tree.wf_none_noErr t h1, Forest.wf_none_noErr ts h3]
      rfl
end

mutual
theorem Tree.wf_yield_kind {G : Grammar} {e : Option Term} : (t : Tree) → Tree.WF G e t →
    ∀ a ∈ t.yield, ∃ k, a.kind = some k
  | .leaf b, h => by
    cases h with
    | leaf _ k hk =>
      intro a ha
      cases List.mem_singleton.mp ha
      exact ⟨k, hk⟩
  | .node _ _ _ ks, h => by
    cases h with
    | node _ _ _ pr _ _ hks => exact Forest.wf_yield_kind ks hks
  | .err _ _, _ => fun _ ha => absurd ha List.not_mem_nil
theorem Forest.wf_yield_kind {G : Grammar} {e : Option Term} : (f : Forest) → {Xs : List Sym} →
    Forest.WF G e f Xs → ∀ a ∈ f.yield, ∃ k, a.kind = some k
  | .nil, _, _ => fun _ ha => absurd ha List.not_mem_nil
  | .cons t ts, _, h => by
    cases h with
    | cons _ _ _ _ h1 _ h3 =>
      intro a ha
      cases List.mem_append.mp ha with
      | inl ha => exact Tree.wf_yield_kind t h1 a ha
      | inr ha => exact Forest.wf_yield_kind ts h3 a ha
end

/-- the state stack (top first) is a path of the automaton from state 0 over `Xs` (top first) -/
inductive Path (A : Automaton) : List Nat → List Sym → Prop
  | base : Path A [0] []
  | push {s s' : Nat} {ss : List Nat} {X : Sym} {Xs : List Sym} :
      Path A (s :: ss) Xs → A.trans s X = some s' → Path A (s' :: s :: ss) (X :: Xs)

/-- the symbol stack (top first) holds well-formed trees with roots `Xs` -/
inductive TreesOK (G : Grammar) (e : Option Term) : List SymTriple → List Sym → Prop
  | nil : TreesOK G e [] []
  | cons {y : SymTriple} {ys : List SymTriple} {X : Sym} {Xs : List Sym} :
      Tree.WF G e y.2.1 → y.2.1.root G e = some X → TreesOK G e ys Xs → TreesOK G e (y :: ys) (X :: Xs)

/-- item `(p,d)` is valid for the stack: the top `d` symbols are `rhs_p[0..d)` and the state below
    them holds `(p,0)` -/
def ItemAt (G : Grammar) (A : Automaton) (p : Nat) : Nat → List Nat → List Sym → Prop
  | 0, s :: _, _ => (p, 0) ∈ A.coresOf s
  | d + 1, _ :: ss, X :: Xs => symAt G p d = some X ∧ ItemAt G A p d ss Xs
  | _, _, _ => False

/-- tokens under the symbol stack, bottom to top -/
def stackYield : List SymTriple → List Tok
  | [] => []
  | y :: ys => stackYield ys ++ y.2.1.yield

theorem Path.length {A : Automaton} {st : List Nat} {Xs : List Sym} (h : Path A st Xs) :
    st.length = Xs.length + 1 := by
  induction h with
  | base => rfl
  | push _ _ ih => simp [ih]

theorem Path.ne_nil {A : Automaton} {st : List Nat} {Xs : List Sym} (h : Path A st Xs) : st ≠ [] := by
  cases h <;> simp

theorem Path.tail {A : Automaton} {s' s : Nat} {ss : List Nat} {Xs : List Sym}
    (h : Path A (s' :: s :: ss) Xs) : Path A (s :: ss) Xs.tail := by
  cases h with
  | push h1 _ => exact h1

theorem Path.drop {A : Automaton} : ∀ (n : Nat) {st : List Nat} {Xs : List Sym} {b : Nat} {m : List Nat},
    Path A st Xs → st.drop n = b :: m → Path A (b :: m) (Xs.drop n)
  | 0, _, _, _, _, h, hd => by simpa [← hd] using h
  | n + 1, _, _, _, _, h, hd => by
    cases h with
    | base => simp at hd
    | push h1 _ =>
      simp only [List.drop_succ_cons] at hd ⊢
      exact Path.drop n h1 hd

theorem TreesOK.length {G : Grammar} {e : Option Term} {syms : List SymTriple} {Xs : List Sym}
    (h : TreesOK G e syms Xs) : syms.length = Xs.length := by
  induction h with
  | nil => rfl
  | cons _ _ _ ih => simp [ih]

theorem TreesOK.drop {G : Grammar} {e : Option Term} : ∀ (n : Nat) {syms : List SymTriple} {Xs : List Sym},
    TreesOK G e syms Xs → TreesOK G e (syms.drop n) (Xs.drop n)
  | 0, _, _, h => by simpa using h
  | n + 1, _, _, h => by
    cases h with
    | nil => simpa using TreesOK.nil
    | cons _ _ h3 => simpa using TreesOK.drop n h3

theorem TreesOK.yield_kind {G : Grammar} {e : Option Term} {syms : List SymTriple} {Xs : List Sym}
    (h : TreesOK G e syms Xs) : ∀ a ∈ stackYield syms, ∃ k, a.kind = some k := by
  induction h with
  | nil => simp [stackYield]
  | cons h1 _ _ ih =>
    intro a ha
    simp only [stackYield, List.mem_append] at ha
    cases ha with
    | inl ha => exact ih a ha
    | inr ha => exact Tree.wf_yield_kind _ h1 a ha

theorem stackYield_append (a b : List SymTriple) : stackYield (a ++ b) = stackYield b ++ stackYield a := by
  induction a with
  | nil => simp [stackYield]
  | cons x a ih => simp [stackYield, ih]

theorem stackYield_take_drop (n : Nat) (l : List SymTriple) :
    stackYield l = stackYield (l.drop n) ++ stackYield (l.take n) := by
  conv => lhs; rw [← List.take_append_drop n l]
  exact stackYield_append _ _

theorem yield_ofList_reverse (l : List SymTriple) :
    (Forest.ofList (l.reverse.map (·.2.1))).yield = stackYield l := by
  induction l with
  | nil => simp [Forest.ofList, Forest.yield, stackYield]
  | cons x l ih =>
    simp only [List.reverse_cons, List.map_append, List.map_cons, List.map_nil, stackYield]
    rw [Forest.yield_ofList_append, ih]

theorem ItemAt.drop {G : Grammar} {A : Automaton} {p : Nat} : ∀ (d : Nat) {st : List Nat} {Xs : List Sym},
    ItemAt G A p d st Xs → ∃ below more, st.drop d = below :: more ∧ (p, 0) ∈ A.coresOf below
  | 0, s :: ss, _, h => ⟨s, ss, rfl, h⟩
  | 0, [], _, h => h.elim
  | _ + 1, [], _, h => h.elim
  | _ + 1, _ :: _, [], h => h.elim
  | d + 1, _ :: _, _ :: _, h => ItemAt.drop d h.2

theorem symAt_some {G : Grammar} {p d : Nat} {X : Sym} {pr : Production}
    (hp : G.prods[p]? = some pr) (h : symAt G p d = some X) : pr.rhs[d]? = some X := by
  simpa [symAt, hp] using h

/-- consequences of item validity on the symbol stack: the top `d` trees form a forest for
    the first `d` rhs symbols -/
theorem ItemAt.forest {G : Grammar} {A : Automaton} {e : Option Term} {p : Nat} {pr : Production}
    (hp : G.prods[p]? = some pr) : ∀ (d : Nat) {st : List Nat} {Xs : List Sym} {syms : List SymTriple},
    ItemAt G A p d st Xs → TreesOK G e syms Xs →
    d ≤ syms.length ∧ d ≤ pr.rhs.length ∧
      Forest.WF G e (Forest.ofList ((syms.take d).reverse.map (·.2.1))) (pr.rhs.take d)
  | 0, _, _, _, _, _ => ⟨Nat.zero_le _, Nat.zero_le _, Forest.WF.nil⟩
  | _ + 1, [], _, _, h, _ => h.elim
  | _ + 1, _ :: _, [], _, h, _ => h.elim
  | d + 1, _ :: ss, X :: Xs, _, h, .cons h1 h2 h3 => by
    obtain ⟨ih1, ih2, ih3⟩ := ItemAt.forest hp d h.2 h3
    have hX := symAt_some hp h.1
    refine ⟨Nat.succ_le_succ ih1, (List.getElem?_eq_some_iff.mp hX).1, ?_⟩
    have e1 : pr.rhs.take (d + 1) = pr.rhs.take d ++ [X] := by
      rw [List.take_add_one, hX]; rfl
    rw [e1]
    simp only [List.take_succ_cons, List.reverse_cons, List.map_append, List.map_cons, List.map_nil]
    exact Forest.wf_snoc _ _ _ _ ih3 h1 h2

end LalrpopModel.LR
