import LalrpopModel.Lemmas.LRGenericIO
import LalrpopModel.Lemmas.LRGenericFuel
import LalrpopModel.Lemmas.LRDriver
/-!
Valid-prefix properties (C04/C05): prefix determinism of the driver, for ARBITRARY tables without
error recovery.

The machine looks at its `input` field only in `next_token`, and only at its head. Hence two
runs on inputs that share their first `m` items go through the same configurations (the `input`
field aside) and phases as long as no more than `m` items have been pulled (`prefix_determinism`).

Also: a run that accepts from phase `.act la a` shifts `a` after finitely many reductions, which
is what `accepts` simulates on the state stack (`act_run_accepts`).
-/
namespace LalrpopModel.LR.Prefix
open LalrpopModel.LR LalrpopModel.LR.Generic

/-- the configuration with its remaining input replaced -/
def setIn (c : Cfg) (i : List Item) : Cfg := { c with input := i }

@[simp] theorem setIn_states (c : Cfg) (i : List Item) : (setIn c i).states = c.states := rfl
@[simp] theorem setIn_symbols (c : Cfg) (i : List Item) : (setIn c i).symbols = c.symbols := rfl
@[simp] theorem setIn_input (c : Cfg) (i : List Item) : (setIn c i).input = i := rfl
@[simp] theorem setIn_pulled (c : Cfg) (i : List Item) : (setIn c i).pulled = c.pulled := rfl
@[simp] theorem setIn_lastLoc (c : Cfg) (i : List Item) : (setIn c i).lastLoc = c.lastLoc := rfl
@[simp] theorem setIn_acts (c : Cfg) (i : List Item) : (setIn c i).acts = c.acts := rfl
@[simp] theorem setIn_trace (c : Cfg) (i : List Item) : (setIn c i).trace = c.trace := rfl
@[simp] theorem setIn_setIn (c : Cfg) (i j : List Item) : setIn (setIn c i) j = setIn c j := rfl

def rrSetIn (i : List Item) : ReduceResult → ReduceResult
  | .continue_ c => .continue_ (setIn c i)
  | .finished c r => .finished (setIn c i) r

section
variable (T : Tables) (af : Nat) (failAt : Option Nat) (startLoc : Int)

theorem reduce_setIn (c : Cfg) (i : List Item) (p : Nat) (la : Option Int) :
    reduce T failAt startLoc (setIn c i) p la = rrSetIn i (reduce T failAt startLoc c p la) := by
  rw [reduce_eq_reduceWith, reduce_eq_reduceWith]
  split
  · unfold reduceWith
    rw [apply_ite (rrSetIn i), apply_ite (rrSetIn i), apply_ite (rrSetIn i), apply_ite (rrSetIn i)]
    -- the same tests on both sides; `popCfg` and `pushCfg` commute with `setIn` by `rfl`
    refine ite_congr rfl (fun _ => rfl) fun _ => ite_congr rfl (fun _ => rfl) fun _ =>
      ite_congr rfl (fun _ => ?_) fun _ => ite_congr rfl (fun _ => rfl) fun _ => ?_
    · rw [setIn_symbols]
      split <;> rfl
    · rw [setIn_states]
      split <;> rfl
  · rfl

theorem enterRecovery_setIn (hrec : T.usesRecovery = false) (c : Cfg) (i : List Item)
    (la : Option (Tok × Term)) (fe : Bool) :
    enterRecovery T af (setIn c i) la fe =
      (setIn (enterRecovery T af c la fe).1 i, (enterRecovery T af c la fe).2) := by
  unfold enterRecovery
  rw [show unrecognizedError T af (setIn c i) (la.map (·.1)) = unrecognizedError T af c (la.map (·.1)) from rfl]
  cases unrecognizedError T af c (la.map (·.1)) with
  | error e => rfl
  | ok pe => simp [hrec]

/-- outside `next_token` a step does not look at the input -/
theorem step_setIn (hrec : T.usesRecovery = false) (c : Cfg) (i : List Item) {ph : Phase}
    (hpl : phErr ph = none) (hne : ph ≠ .pull) :
    step T af failAt startLoc (setIn c i) ph =
      (setIn (step T af failAt startLoc c ph).1 i, (step T af failAt startLoc c ph).2) := by
  cases ph with
  | pull => exact absurd rfl hne
  | done r => rfl
  | recReduce la e fe => cases hpl
  | recFind la e d sl fe => cases hpl
  | act la idx =>
    simp only [step, setIn_states, setIn_symbols]
    cases c.states with
    | nil => rfl
    | cons top rest =>
      dsimp only
      cases T.actionAt top idx with
      | none => rfl
      | some a =>
        dsimp only
        cases asShift a with
        | some target => rfl
        | none =>
          dsimp only
          cases asReduce a with
          | some p =>
            simp only [reduce_setIn]
            cases reduce T failAt startLoc c p (some la.l) with
            | continue_ c' => rfl
            | finished c' r => cases r <;> rfl
          | none => exact enterRecovery_setIn T af hrec c i _ _
  | eof =>
    simp only [step, setIn_states]
    cases c.states with
    | nil => rfl
    | cons top rest =>
      dsimp only
      cases T.eofActionAt top with
      | none => rfl
      | some a =>
        dsimp only
        cases asReduce a with
        | some p =>
          simp only [reduce_setIn]
          cases reduce T failAt startLoc c p none <;> rfl
        | none => exact enterRecovery_setIn T af hrec c i _ _

/-- `next_token` looks at the head of the input only -/
theorem nextToken_setIn (c : Cfg) (i : List Item) (h : i.head? = c.input.head?) :
    nextToken T af (setIn c i) = (setIn (nextToken T af c).1 i.tail, (nextToken T af c).2) := by
  obtain ⟨sts, syms, inp, ll, pu, ac, tr⟩ := c
  cases inp with
  | nil => cases i with
    | nil => rfl
    | cons y i => cases h
  | cons x inp => cases i with
    | nil => cases h
    | cons y i =>
      injection h with h
      subst h
      cases y with
      | err e => rfl
      | tok t =>
        simp only [nextToken, setIn, unrecognizedError]
        cases t.kind with
        | some k => rfl
        | none =>
          dsimp only
          cases expected T af sts <;> rfl

theorem step_setIn_pull (c : Cfg) (i : List Item) (h : i.head? = c.input.head?) :
    step T af failAt startLoc (setIn c i) .pull =
      (setIn (step T af failAt startLoc c .pull).1 i.tail, (step T af failAt startLoc c .pull).2) := by
  rw [step_pull_eq, step_pull_eq, nextToken_setIn T af c i h]

end

section
variable {T : Tables} {af : Nat} {failAt : Option Nat} {startLoc : Int} {c c' : Cfg} {ph ph' : Phase}

/-- without error recovery a run never enters `error_recovery` proper -/
theorem phErr_none_of_run (hrec : T.usesRecovery = false) {input : List Item} {n : Nat}
    (h : run T af failAt startLoc n (init startLoc input) .pull = (c, ph)) : phErr ph = none := by
  cases he : phErr ph with
  | none => rfl
  | some e => cases hrec.symm.trans ((ioinv_of_run h).perr e he).1

theorem step_pull_frame (h : step T af failAt startLoc c .pull = (c', ph')) :
    c'.pulled = c.pulled + 1 ∧ c'.states = c.states := by
  rw [step_pull_eq] at h
  cases h
  exact ⟨(nextToken_spec T af c).frame.2.2.2.2, (nextToken_spec T af c).frame.2.2.1⟩

theorem step_pulled_le (h : step T af failAt startLoc c ph = (c', ph')) : c.pulled ≤ c'.pulled := by
  rcases (step_spec_of h).io_cases with ⟨_, hp, _⟩ | ⟨_, _, _, _, nt, hn, _⟩
  · exact Nat.le_of_eq hp.symm
  · rw [hn.frame.2.2.2.2]
    exact Nat.le_succ _

/-- in `.act` and `.eof` nothing is pulled -/
theorem step_pulled_eq (h : step T af failAt startLoc c ph = (c', ph')) (hpl : phErr ph = none)
    (hne : ph ≠ .pull) : c'.pulled = c.pulled := by
  rcases (step_spec_of h).io_cases with ⟨_, hp, _⟩ | ⟨_, _, _, _, nt, _, hp | ⟨t, i, e, d, sl, fe, hp, _⟩⟩
  · exact hp
  · exact absurd hp.1 hne
  · rw [hp] at hpl
    cases hpl

end

section
variable (T : Tables) (af : Nat) (failAt : Option Nat) (startLoc : Int)

theorem run_pulled_le (n : Nat) (c : Cfg) (ph : Phase) : c.pulled ≤ (run T af failAt startLoc n c ph).1.pulled := by
  induction n with
  | zero => simp
  | succ n ih =>
    rw [run_succ']
    exact Nat.le_trans ih (step_pulled_le rfl)

theorem run_pulled_mono (m n : Nat) (hmn : m ≤ n) (c : Cfg) (ph : Phase) :
    (run T af failAt startLoc m c ph).1.pulled ≤ (run T af failAt startLoc n c ph).1.pulled := by
  obtain ⟨k, rfl⟩ := Nat.exists_eq_add_of_le hmn
  rw [run_add]
  exact run_pulled_le T af failAt startLoc k _ _

/-- `LR.prefix_determinism` (Props/LRPrefixThms, described there) with the second run's
    configuration written `setIn`: the form the induction on the number of steps needs. -/
theorem prefix_determinism (hrec : T.usesRecovery = false) (I₁ I₂ : List Item) (m : Nat)
    (hshare : I₁.take m = I₂.take m) :
    ∀ (n : Nat) (c₁ : Cfg) (ph₁ : Phase),
      run T af failAt startLoc n (init startLoc I₁) .pull = (c₁, ph₁) → c₁.pulled ≤ m →
      run T af failAt startLoc n (init startLoc I₂) .pull = (setIn c₁ (I₂.drop c₁.pulled), ph₁) := by
  intro n
  induction n with
  | zero =>
    intro c₁ ph₁ h _
    rw [run_zero] at h ⊢
    cases h
    rfl
  | succ n ih =>
    intro c₁ ph₁ h hle
    rcases hprev : run T af failAt startLoc n (init startLoc I₁) .pull with ⟨c₀, ph₀⟩
    rw [run_succ', hprev] at h
    have hplain := phErr_none_of_run hrec hprev
    rw [run_succ', ih c₀ ph₀ hprev (Nat.le_trans (step_pulled_le h) hle)]
    by_cases hpu : ph₀ = .pull
    · -- the item pulled has index `c₀.pulled < m`: the same in both inputs
      subst hpu
      have hp := (step_pull_frame h).1
      have hlt : c₀.pulled < m := by rwa [hp] at hle
      have hhd : (I₂.drop c₀.pulled).head? = c₀.input.head? := by
        rw [(ioinv_of_run (T := T) (startLoc := startLoc) hprev).inp, List.head?_drop, List.head?_drop,
          ← List.getElem?_take_of_lt hlt, ← hshare, List.getElem?_take_of_lt hlt]
      rw [step_setIn_pull T af failAt startLoc c₀ _ hhd, h, List.tail_drop, hp]
    · rw [step_setIn T af failAt startLoc hrec c₀ _ hplain hpu, h, step_pulled_eq h hplain hpu]

end

section
variable (T : Tables) (af : Nat) (failAt : Option Nat) (startLoc : Int)

/-- If a run from phase `.act la a` ends in `Ok`, then `accepts` (with enough fuel) says that the
    state stack accepts `a`. Arbitrary tables, no recovery. -/
theorem act_run_accepts (hrec : T.usesRecovery = false) :
    ∀ (n : Nat) (c : Cfg) (la : Tok) (a : Term) (c' : Cfg) (v : Tree),
      run T af failAt startLoc n c (.act la a) = (c', .done (.ok v)) →
      ∃ af', accepts T af' c.states (some a) = .ok true := by
  intro n
  induction n with
  | zero => intro c la a c' v h; simp at h
  | succ n ih =>
    intro c la a c' v h
    rw [run_succ] at h
    have hs := step_spec T af failAt startLoc c (.act la a)
    generalize (step T af failAt startLoc c (.act la a)).1 = c₁ at h hs
    generalize (step T af failAt startLoc c (.act la a)).2 = ph₁ at h hs
    cases hs with
    | panic _ tag hd => rw [run_done] at h; cases h
    | shift _ _ top rest act t hst hact hsh =>
      rw [hst]
      exact ⟨1, accepts_shift T rest 0 hact (Int.ne_of_gt (asShift_some hsh).1) (asReduce_of_asShift hsh)⟩
    | redCont _ p ls _ hctx hr =>
      obtain ⟨-, top, rest, act, hst, hact, -, hred⟩ := hctx
      cases hr with
      | cont k A hk hlen hnf hlhs hst' below more hd =>
        obtain ⟨af', haf⟩ := ih _ la a c' v h
        rw [hst] at hd ⊢
        exact ⟨af' + 1, (accepts_reduce T (o := some a) af' hact hred hlen hlhs hst' hd).trans haf⟩
    | redFin _ p ls _ r hctx hr =>
      rw [run_done] at h
      cases r <;> cases h
    | enterNoRec _ la' fe ex hctx hex hrec' => rw [run_done] at h; cases h
    | enterRec _ la' fe ex hctx hex hrec' => rw [hrec] at hrec'; cases hrec'

end

end LalrpopModel.LR.Prefix
