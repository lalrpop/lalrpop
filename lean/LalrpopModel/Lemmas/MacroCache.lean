import LalrpopModel.Model.Macro
/-!
The worklist of `MacroExpander::expand` with its cache of keys: what the output contains
(for any key function), used by Props/C13 `cached_expand_eq_subst`.
-/

namespace LalrpopModel.Macro

variable (key : KeyFn) (re : String → String → Option Bool) (defs : List NtData)

def rewriteNt (d : NtData) : Option (NtData × List Sym) :=
  match rewriteAlts key d.alts with
  | some (alts', c) => some ({ d with alts := alts' }, c)
  | none => none

/-- one generated nonterminal: the symbol it stands for, its definition by substitution
    (`expandOne`), the definition after its own uses were rewritten (what ends up in the grammar)
    and the candidates found in it -/
structure Gen where
  sym : Sym
  defn : NtData
  defn' : NtData
  cands : List Sym

def Gen.ok (g : Gen) : Prop :=
  expandOne key re defs g.sym = .ok g.defn ∧ rewriteNt key g.defn = some (g.defn', g.cands)

theorem push1_cases (st : State) (t : Sym) :
    (key t ∈ st.expansionSet ∧ push1 key st t = st) ∨
    (key t ∉ st.expansionSet ∧ push1 key st t =
      { expansionSet := key t :: st.expansionSet, expansionStack := t :: st.expansionStack }) := by
  unfold push1
  by_cases h : key t ∈ st.expansionSet
  · exact .inl ⟨h, if_pos (List.contains_iff_mem.mpr h)⟩
  · exact .inr ⟨h, if_neg (mt List.contains_iff_mem.mp h)⟩

/-- The state of a round that started from the set `S` with an empty stack, after the candidates
    `done` were pushed. -/
structure RoundInv (S : List String) (done : List Sym) (st : State) : Prop where
  set_eq : st.expansionSet = st.expansionStack.map key ++ S
  nodup : (st.expansionStack.map key).Nodup
  fresh : ∀ t ∈ st.expansionStack, key t ∉ S
  sub : ∀ t ∈ st.expansionStack, t ∈ done
  seen : ∀ t ∈ done, key t ∈ st.expansionSet

theorem roundInv_push1 {S : List String} {done : List Sym} {st : State}
    (h : RoundInv key S done st) (t : Sym) : RoundInv key S (done ++ [t]) (push1 key st t) := by
  rcases push1_cases key st t with ⟨hin, e⟩ | ⟨hnin, e⟩
  · rw [e]
    exact ⟨h.set_eq, h.nodup, h.fresh, fun x hx => List.mem_append_left _ (h.sub x hx),
      List.forall_mem_append.mpr ⟨h.seen, List.forall_mem_singleton.mpr hin⟩⟩
  · rw [e]
    have hnew : key t ∉ st.expansionStack.map key ∧ key t ∉ S := by
      rwa [h.set_eq, List.mem_append, not_or] at hnin
    exact ⟨congrArg (key t :: ·) h.set_eq, List.nodup_cons.mpr ⟨hnew.1, h.nodup⟩,
      List.forall_mem_cons.mpr ⟨hnew.2, h.fresh⟩,
      List.forall_mem_cons.mpr ⟨List.mem_append_right _ (List.mem_singleton_self _),
        fun x hx => List.mem_append_left _ (h.sub x hx)⟩,
      List.forall_mem_append.mpr ⟨fun x hx => List.mem_cons_of_mem _ (h.seen x hx),
        List.forall_mem_singleton.mpr List.mem_cons_self⟩⟩

theorem roundInv_pushAll {S : List String} (cands : List Sym) :
    ∀ {done : List Sym} {st : State}, RoundInv key S done st →
      RoundInv key S (done ++ cands) (pushAll key st cands) := by
  induction cands with
  | nil => intro done st h; rwa [List.append_nil]
  | cons c cs ih =>
    intro done st h
    have := ih (roundInv_push1 key h c)
    rwa [List.append_assoc] at this

/-! ### `drain` followed by the rewriting of the drained definitions in the next round -/

theorem drain_rewrite (stack : List Sym) (items items' : List Item) (c : List Sym)
    (h : drain key re defs stack = .ok items) (hr : rewriteItems key items = some (items', c)) :
    ∃ K : List Gen, K.map (·.sym) = stack ∧ (∀ g ∈ K, g.ok key re defs) ∧
      items' = K.map (fun g => Item.nt g.defn') ∧ c = K.flatMap (·.cands) := by
  induction stack generalizing items items' c with
  | nil =>
    cases h
    cases hr
    exact ⟨[], rfl, List.forall_mem_nil _, rfl, rfl⟩
  | cons s rest ih =>
    rw [drain] at h
    split at h
    · next d h1 =>
      split at h
      · next restItems h2 =>
        cases h
        rw [rewriteItems] at hr
        obtain ⟨⟨alts', c1⟩, h3, hr⟩ := Option.bind_eq_some_iff.mp hr
        obtain ⟨⟨rest', c2⟩, h4, hr⟩ := Option.bind_eq_some_iff.mp hr
        cases hr
        obtain ⟨K, hK1, hK2, rfl, rfl⟩ := ih restItems rest' c2 h2 h4
        exact ⟨⟨s, d, { d with alts := alts' }, c1⟩ :: K, congrArg (s :: ·) hK1,
          List.forall_mem_cons.mpr ⟨⟨h1, by rw [rewriteNt, h3]⟩, hK2⟩, rfl, rfl⟩
      · next hno => exact absurd h (hno _)
    · cases h
    · cases h

/-- What the rounds starting from the set `S` with the candidates `cF` generate: nonterminals `G`, one
    per *new key*, each the rewriting of the definition of a symbol with that key; every candidate met,
    in `cF` or in a generated definition, has its key in `S` or among the generated ones; and every
    generated symbol was reached from `cF`: it lies in every `U` that contains `cF` and, with a symbol,
    the candidates of its definition.  (Props/C13 takes the symbols met by the expander for `U`.) -/
structure Generated (S : List String) (cF : List Sym) (G : List Gen) : Prop where
  gens_ok : ∀ g ∈ G, g.ok key re defs
  keys_nodup : (G.map fun g => key g.sym).Nodup
  keys_fresh : ∀ g ∈ G, key g.sym ∉ S
  cands_covered : ∀ t ∈ cF ++ G.flatMap (·.cands), key t ∈ S ∨ ∃ g ∈ G, key g.sym = key t
  reached : ∀ U : Sym → Prop,
    (∀ t, U t → ∀ d d' c, expandOne key re defs t = .ok d → rewriteNt key d = some (d', c) →
      ∀ t' ∈ c, U t') →
    (∀ t ∈ cF, U t) → ∀ g ∈ G, U g.sym

theorem generated_nil {S : List String} {cF : List Sym} {st : State} (inv : RoundInv key S cF st)
    (he : st.expansionStack = []) : Generated key re defs S cF [] := by
  refine ⟨List.forall_mem_nil _, .nil, List.forall_mem_nil _, fun t ht => .inl ?_,
    fun _ _ _ => List.forall_mem_nil _⟩
  have := inv.seen t (List.append_nil cF ▸ ht)
  rwa [inv.set_eq, he] at this

theorem generated_round {S : List String} {cF : List Sym} {st : State} {K G : List Gen}
    (inv : RoundInv key S cF st) (hKsym : K.map (·.sym) = st.expansionStack)
    (hKok : ∀ g ∈ K, g.ok key re defs)
    (h : Generated key re defs st.expansionSet (K.flatMap (·.cands)) G) :
    Generated key re defs S cF (K ++ G) := by
  have hKkeys : K.map (fun g => key g.sym) = st.expansionStack.map key := by
    rw [← hKsym, List.map_map]
    rfl
  have inSet : ∀ k, k ∈ st.expansionSet ↔ (∃ g ∈ K, key g.sym = k) ∨ k ∈ S := by
    intro k
    rw [inv.set_eq, ← hKkeys, List.mem_append, List.mem_map]
  have cover : ∀ k, (k ∈ st.expansionSet ∨ ∃ g ∈ G, key g.sym = k) →
      k ∈ S ∨ ∃ g ∈ K ++ G, key g.sym = k := by
    intro k hk
    rcases hk with h | ⟨g, hg, he⟩
    · rcases (inSet k).mp h with ⟨g, hg, he⟩ | h
      · exact .inr ⟨g, List.mem_append_left _ hg, he⟩
      · exact .inl h
    · exact .inr ⟨g, List.mem_append_right _ hg, he⟩
  refine ⟨List.forall_mem_append.mpr ⟨hKok, h.gens_ok⟩, ?_, ?_, ?_, fun U hU hUF => ?_⟩
  · rw [List.map_append, List.nodup_append]
    refine ⟨hKkeys ▸ inv.nodup, h.keys_nodup, ?_⟩
    intro x hx y hy hxy
    obtain ⟨g, hg, rfl⟩ := List.mem_map.mp hy
    obtain ⟨g', hg', e⟩ := List.mem_map.mp hx
    exact h.keys_fresh g hg ((inSet _).mpr (.inl ⟨g', hg', e.trans hxy⟩))
  · exact List.forall_mem_append.mpr
      ⟨fun g hg => inv.fresh _ (hKsym ▸ List.mem_map_of_mem hg),
        fun g hg hS => h.keys_fresh g hg ((inSet _).mpr (.inr hS))⟩
  · rw [List.flatMap_append]
    exact List.forall_mem_append.mpr
      ⟨fun t ht => cover _ (.inl (inv.seen t ht)), fun t ht => cover _ (h.cands_covered t ht)⟩
  · have hKU : ∀ g ∈ K, U g.sym := fun g hg => hUF _ (inv.sub _ (hKsym ▸ List.mem_map_of_mem hg))
    refine List.forall_mem_append.mpr ⟨hKU, h.reached U hU fun t ht => ?_⟩
    obtain ⟨g0, hg0, ht0⟩ := List.mem_flatMap.mp ht
    exact hU _ (hKU g0 hg0) _ _ _ (hKok g0 hg0).1 (hKok g0 hg0).2 t ht0

/-- What a call of the expansion loop returns, for any key function: the rewritten fresh items
    followed by the generated nonterminals. -/
theorem expandLoop_spec (limit : Nat) :
    ∀ (fuel round : Nat) (S : List String) (D F out : List Item),
      expandLoop key re defs limit fuel round S D F = .ok out →
      ∃ (F' : List Item) (cF : List Sym) (G : List Gen),
        rewriteItems key F = some (F', cF) ∧
        out = D ++ F' ++ G.map (fun g => Item.nt g.defn') ∧
        Generated key re defs S cF G := by
  intro fuel
  induction fuel with
  | zero => intro round S D F out h; cases h
  | succ fuel ih =>
    intro round S D F out h
    simp only [expandLoop] at h
    cases hF : rewriteItems key F <;> simp only [hF, reduceCtorEq] at h
    rename_i p
    obtain ⟨F', cF⟩ := p
    have inv := roundInv_pushAll key cF
      (show RoundInv key S [] { expansionSet := S, expansionStack := [] } from
        ⟨rfl, .nil, List.forall_mem_nil _, List.forall_mem_nil _, List.forall_mem_nil _⟩)
    generalize pushAll key { expansionSet := S, expansionStack := [] } cF = st at h inv
    simp only [List.nil_append] at inv
    by_cases hempty : st.expansionStack.isEmpty = true
    · rw [if_pos hempty] at h
      cases h
      exact ⟨F', cF, [], rfl, (List.append_nil _).symm,
        generated_nil key re defs inv (List.isEmpty_iff.mp hempty)⟩
    · rw [if_neg hempty] at h
      by_cases hlim : round + 1 > limit
      · rw [if_pos hlim] at h
        cases h
      · rw [if_neg hlim] at h
        cases hd : drain key re defs st.expansionStack <;> simp only [hd, reduceCtorEq] at h
        rename_i newItems
        obtain ⟨F2', cF2, G2, hF2, hout, hG2⟩ := ih _ _ _ _ _ h
        obtain ⟨K, hKsym, hKok, rfl, rfl⟩ := drain_rewrite key re defs _ _ _ _ hd hF2
        refine ⟨F', cF, K ++ G2, rfl, ?_, generated_round key re defs inv hKsym hKok hG2⟩
        simp only [hout, List.map_append, List.append_assoc]

end LalrpopModel.Macro
