import LalrpopModel.Lemmas.LRGenericRecovery
/-!
C16, spans: with monotone token spans the spans on the symbol stack (error symbols included) are
ordered and disjoint, and the span `error_recovery` gives to an error symbol covers its dropped
tokens. Error nodes do not carry their span in the tree (`Tree.err error dropped`), so the
statements are about the `(l, value, r)` triples on the symbol stack.
-/
namespace LalrpopModel.LR.Generic
open LalrpopModel.LR
variable {T : Tables} {af : Nat} {failAt : Option Nat} {startLoc : Int}

/-- token spans are well-formed, ordered and disjoint, and start at or after `lo` -/
def MonoFrom (lo : Int) : List Tok → Prop
  | [] => True
  | t :: rest => lo ≤ t.l ∧ t.l ≤ t.r ∧ MonoFrom t.r rest

/-- end of the last token, `lo` if there is none -/
def lastOf (lo : Int) : List Tok → Int
  | [] => lo
  | t :: rest => lastOf t.r rest

theorem monoFrom_append {lo : Int} {a b : List Tok} :
    MonoFrom lo (a ++ b) ↔ MonoFrom lo a ∧ MonoFrom (lastOf lo a) b := by
  induction a generalizing lo with
  | nil => simp [MonoFrom, lastOf]
  | cons t a ih => simp [MonoFrom, lastOf, ih, and_assoc]

theorem lastOf_append {lo : Int} {a b : List Tok} : lastOf lo (a ++ b) = lastOf (lastOf lo a) b := by
  induction a generalizing lo with
  | nil => rfl
  | cons t a ih => simp [lastOf, ih]

theorem MonoFrom.le_lastOf {lo : Int} {a : List Tok} (h : MonoFrom lo a) : lo ≤ lastOf lo a := by
  induction a generalizing lo with
  | nil => exact Int.le_refl _
  | cons t a ih => have := ih h.2.2; simp only [lastOf]; have := h.1; have := h.2.1; omega

theorem MonoFrom.mem {lo : Int} {a : List Tok} (h : MonoFrom lo a) {d : Tok} (hd : d ∈ a) :
    lo ≤ d.l ∧ d.l ≤ d.r ∧ d.r ≤ lastOf lo a := by
  induction a generalizing lo with
  | nil => cases hd
  | cons t a ih =>
    rcases List.mem_cons.mp hd with rfl | hd
    · exact ⟨h.1, h.2.1, h.2.2.le_lastOf⟩
    · have ih' := ih h.2.2 hd
      have := h.1; have := h.2.1
      exact ⟨by omega, ih'.2.1, ih'.2.2⟩

theorem MonoFrom.weaken {lo lo' : Int} {a : List Tok} (h : MonoFrom lo a) (hle : lo' ≤ lo) : MonoFrom lo' a := by
  cases a with
  | nil => trivial
  | cons t a => exact ⟨Int.le_trans hle h.1, h.2⟩

theorem lastOf_eq_getLast {lo : Int} {a : List Tok} {d : Tok} (h : a.getLast? = some d) : lastOf lo a = d.r := by
  induction a generalizing lo with
  | nil => cases h
  | cons t a ih =>
    cases a with
    | nil => simp at h; subst h; rfl
    | cons t' a' => exact ih (lo := t.r) (by simpa using h)

theorem lastOf_toksOf (items : List Item) : lastOf startLoc (toksOf items) = lastR startLoc items := by
  unfold lastR
  cases h : (toksOf items).getLast? with
  | none => rw [List.getLast?_eq_none_iff.mp h]; rfl
  | some d => exact lastOf_eq_getLast h

/-- right end of the top symbol, `lo` for the empty stack -/
def topEnd (lo : Int) : List SymTriple → Int
  | [] => lo
  | s :: _ => s.2.2

/-- spans of the stack (top first), read bottom to top, are well-formed, ordered and disjoint -/
def Ordered (lo : Int) : List SymTriple → Prop
  | [] => True
  | s :: rest => Ordered lo rest ∧ topEnd lo rest ≤ s.1 ∧ s.1 ≤ s.2.2

theorem Ordered.le_topEnd {lo : Int} {syms : List SymTriple} (h : Ordered lo syms) : lo ≤ topEnd lo syms := by
  induction syms with
  | nil => exact Int.le_refl _
  | cons s rest ih => exact Int.le_trans (ih h.1) (Int.le_trans h.2.1 h.2.2)

theorem Ordered.get {lo : Int} {syms : List SymTriple} (h : Ordered lo syms) {j : Nat} {s : SymTriple}
    (hs : syms[j]? = some s) :
    Ordered lo (syms.drop (j + 1)) ∧ topEnd lo (syms.drop (j + 1)) ≤ s.1 ∧ s.1 ≤ s.2.2 ∧
      s.2.2 ≤ topEnd lo syms := by
  induction syms generalizing j with
  | nil => cases hs
  | cons s0 rest ih =>
    cases j with
    | zero => cases hs; exact ⟨h.1, h.2.1, h.2.2, Int.le_refl _⟩
    | succ j =>
      rw [List.getElem?_cons_succ] at hs
      have := ih h.1 hs
      exact ⟨this.1, this.2.1, this.2.2.1, Int.le_trans this.2.2.2 (Int.le_trans h.2.1 h.2.2)⟩

theorem Ordered.drop {lo : Int} {syms : List SymTriple} (h : Ordered lo syms) (n : Nat) :
    Ordered lo (syms.drop n) := by
  induction n generalizing syms with
  | zero => simpa using h
  | succ n ih => cases syms with
    | nil => simpa using h
    | cons s rest => simpa using ih h.1

theorem Ordered.mem {lo : Int} {syms : List SymTriple} (h : Ordered lo syms) {s : SymTriple} (hs : s ∈ syms) :
    lo ≤ s.1 ∧ s.1 ≤ s.2.2 ∧ s.2.2 ≤ topEnd lo syms := by
  obtain ⟨j, hj, rfl⟩ := List.mem_iff_getElem.mp hs
  obtain ⟨g1, g2, g3, g4⟩ := h.get (List.getElem?_eq_getElem hj)
  have := g1.le_topEnd
  exact ⟨by omega, g3, g4⟩

theorem Ordered.pairwise {lo : Int} {syms : List SymTriple} (h : Ordered lo syms) :
    syms.Pairwise (fun upper lower => lower.2.2 ≤ upper.1) := by
  induction syms with
  | nil => exact List.Pairwise.nil
  | cons s rest ih =>
    refine List.pairwise_cons.mpr ⟨fun x hx => ?_, ih h.1⟩
    have := (h.1.mem hx).2.2
    have := h.2.1
    omega

theorem topEnd_drop_le {lo : Int} {syms : List SymTriple} (h : Ordered lo syms) (n : Nat) :
    topEnd lo (syms.drop n) ≤ topEnd lo syms := by
  induction n generalizing syms with
  | zero => simp
  | succ n ih => cases syms with
    | nil => simp
    | cons s rest =>
      have := ih h.1; have := h.2.1; have := h.2.2
      simp only [List.drop_succ_cons]
      show topEnd lo (List.drop n rest) ≤ s.2.2
      omega


theorem reduceSym_span_zero (c : Cfg) (p : Nat) (ls : Option Int) :
    (reduceSym startLoc c p 0 ls).1 = (match ls with | some x => x | none => topEnd startLoc c.symbols) ∧
    (reduceSym startLoc c p 0 ls).2.2 = (match ls with | some x => x | none => topEnd startLoc c.symbols) := by
  simp only [reduceSym, reduceSpan, List.take_zero, List.reverse_nil, List.head?_nil, List.drop_zero]
  cases ls with
  | some x => exact ⟨rfl, rfl⟩
  | none => cases c.symbols <;> exact ⟨rfl, rfl⟩

theorem reduceSym_span_pos (c : Cfg) (p : Nat) (ls : Option Int) {n : Nat} (hn : 0 < n)
    (hle : n ≤ c.symbols.length) :
    ∃ f h, c.symbols[n - 1]? = some f ∧ c.symbols[0]? = some h ∧
      (reduceSym startLoc c p n ls).1 = f.1 ∧ (reduceSym startLoc c p n ls).2.2 = h.2.2 := by
  have h1 : (c.symbols.take n).reverse.head? = c.symbols[n - 1]? := by
    rw [List.head?_reverse, List.getLast?_eq_getElem?, List.length_take, Nat.min_eq_left hle,
      List.getElem?_take_of_lt (by omega)]
  have h2 : (c.symbols.take n).reverse.getLast? = c.symbols[0]? := by
    rw [List.getLast?_reverse, List.head?_eq_getElem?, List.getElem?_take_of_lt hn]
  have hf : ∃ f, c.symbols[n - 1]? = some f := ⟨c.symbols[n - 1]'(by omega), List.getElem?_eq_getElem _⟩
  have hh : ∃ h, c.symbols[0]? = some h := ⟨c.symbols[0]'(by omega), List.getElem?_eq_getElem _⟩
  obtain ⟨f, hf⟩ := hf
  obtain ⟨h, hh⟩ := hh
  refine ⟨f, h, hf, hh, ?_, ?_⟩ <;> simp only [reduceSym, reduceSpan, h1, h2, hf, hh]


theorem topEnd_of_head {lo : Int} {syms : List SymTriple} {h : SymTriple} (hh : syms[0]? = some h) :
    topEnd lo syms = h.2.2 := by
  cases syms with
  | nil => simp at hh
  | cons s rest => simp at hh; subst hh; rfl

theorem recStart_facts {c : Cfg} {dropped rest : List Tok} {top : Nat} {l : Int}
    (hord : Ordered startLoc c.symbols)
    (hch : MonoFrom (topEnd startLoc c.symbols) (dropped ++ rest))
    (hl : recStart startLoc c dropped top = .ok l) :
    (top < c.symbols.length → ∃ f, c.symbols[c.symbols.length - 1 - top]? = some f ∧ l = f.1) ∧
    topEnd startLoc (truncBot c.symbols top) ≤ l ∧
    (dropped = [] → l ≤ topEnd startLoc c.symbols) ∧ MonoFrom l dropped := by
  unfold recStart at hl
  cases hg : getBot c.symbols top with
  | some s =>
    -- a symbol is popped: `l` is the start of the bottom-most popped symbol
    rw [hg] at hl
    cases hl
    obtain ⟨hlt, hget⟩ := getBot_some hg
    obtain ⟨-, h2, h3, h4⟩ := hord.get hget
    rw [Nat.sub_right_comm, Nat.sub_add_cancel (Nat.sub_pos_of_lt hlt)] at h2
    exact ⟨fun _ => ⟨s, hget, rfl⟩, h2, fun _ => Int.le_trans h3 h4,
      (monoFrom_append.mp hch).1.weaken (Int.le_trans h3 h4)⟩
  | none =>
    rw [hg] at hl
    have hge := getBot_none hg
    rw [truncBot_of_le hge]
    refine ⟨fun hlt => absurd hge (Nat.not_le_of_lt hlt), ?_⟩
    cases dropped with
    | cons d ds =>
      cases hl
      have hm := (monoFrom_append.mp hch).1
      exact ⟨hm.1, nofun, Int.le_refl _, hm.2⟩
    | nil =>
      -- nothing popped, nothing dropped: `l` is the end of the top symbol
      have : l = topEnd startLoc c.symbols := by
        simp only [List.head?_nil] at hl
        split at hl
        · cases hg' : getBot c.symbols (top - 1) with
          | none => rw [hg'] at hl; cases hl
          | some s' =>
            rw [hg'] at hl
            cases hl
            obtain ⟨hlt, hget⟩ := getBot_some hg'
            rw [Nat.sub_eq_zero_of_le (Nat.sub_le_sub_right hge 1)] at hget
            exact (topEnd_of_head hget).symm
        · cases hl
          rw [List.eq_nil_of_length_eq_zero (by omega : c.symbols.length = 0)]
          rfl
      subst this
      exact ⟨Int.le_refl _, fun _ => Int.le_refl _, trivial⟩


/-- error symbols on the stack have a well-formed span that covers their dropped tokens -/
def ErrCover (syms : List SymTriple) : Prop :=
  ∀ s ∈ syms, ∀ e d, s.2.1 = Tree.err e d → s.1 ≤ s.2.2 ∧ ∀ t ∈ d, s.1 ≤ t.l ∧ t.r ≤ s.2.2

structure SpanInv (startLoc : Int) (c : Cfg) (ph : Phase) : Prop where
  ord : phDone ph = false → Ordered startLoc c.symbols
  chain : phDone ph = false → MonoFrom (topEnd startLoc c.symbols) (held ph)
  last : phDone ph = false → lastOf (topEnd startLoc c.symbols) (held ph) ≤ c.lastLoc
  cover : phDone ph = false → ErrCover c.symbols

theorem SpanInv.of_done (c : Cfg) (r : Outcome) : SpanInv startLoc c (.done r) :=
  ⟨by simp [phDone], by simp [phDone], by simp [phDone], by simp [phDone]⟩

theorem SpanInv.init (input : List Item) : SpanInv startLoc (init startLoc input) .pull where
  ord := by simp [LR.init, Ordered]
  chain := by simp [held, MonoFrom]
  last := by simp [LR.init, held, lastOf, topEnd]
  cover := by intro _ s hs; simp [LR.init] at hs

theorem SpanInv.congr {c c' : Cfg} {ph ph' : Phase} (h : SpanInv startLoc c ph) (hnd : phDone ph = false)
    (hs : c'.symbols = c.symbols) (hl : c'.lastLoc = c.lastLoc) (hh : held ph' = held ph) :
    SpanInv startLoc c' ph' where
  ord _ := by rw [hs]; exact h.ord hnd
  chain _ := by rw [hs, hh]; exact h.chain hnd
  last _ := by rw [hs, hh, hl]; exact h.last hnd
  cover _ := by rw [hs]; exact h.cover hnd

/-- the next token starts at or after `last_location` -/
theorem next_tok_mono {input : List Item} {c : Cfg} {ph : Phase} {t : Tok} {rest : List Item}
    (hmono : MonoFrom startLoc (toksOf input)) (hio : IOInv T startLoc input c ph)
    (h : c.input = .tok t :: rest) : c.lastLoc ≤ t.l ∧ t.l ≤ t.r := by
  have hsplit : toksOf input = toksOf (input.take c.pulled) ++ t :: toksOf rest := by
    conv => lhs; rw [← List.take_append_drop c.pulled input, ← hio.inp, h]
    simp
  rw [hsplit] at hmono
  have := (monoFrom_append.mp hmono).2
  rw [lastOf_toksOf, ← hio.loc] at this
  exact ⟨this.1, this.2.1⟩

theorem monoFrom_snoc {lo : Int} {a : List Tok} {t : Tok} (h : MonoFrom lo a)
    (h1 : lastOf lo a ≤ t.l) (h2 : t.l ≤ t.r) : MonoFrom lo (a ++ [t]) ∧ lastOf lo (a ++ [t]) = t.r := by
  rw [monoFrom_append, lastOf_append]
  exact ⟨⟨h, h1, h2, trivial⟩, rfl⟩

theorem reduceSym_span {c : Cfg} {ph : Phase} {n : Nat} {ls : Option Int} (p : Nat)
    (hord : Ordered startLoc c.symbols) (hch : MonoFrom (topEnd startLoc c.symbols) (held ph))
    (hheld : (∃ la : Tok, ls = some la.l ∧ held ph = [la]) ∨ (ls = none ∧ held ph = []))
    (hn : n ≤ c.symbols.length) :
    topEnd startLoc (c.symbols.drop n) ≤ (reduceSym startLoc c p n ls).1 ∧
    (reduceSym startLoc c p n ls).1 ≤ (reduceSym startLoc c p n ls).2.2 ∧
    MonoFrom (reduceSym startLoc c p n ls).2.2 (held ph) ∧
    lastOf (reduceSym startLoc c p n ls).2.2 (held ph) = lastOf (topEnd startLoc c.symbols) (held ph) := by
  by_cases hn0 : n = 0
  · -- an empty right-hand side: the span is empty, at the lookahead or at the end of the old top
    subst hn0
    obtain ⟨e1, e2⟩ := reduceSym_span_zero (startLoc := startLoc) c p ls
    rw [e1, e2]
    rcases hheld with ⟨la, rfl, hh⟩ | ⟨rfl, hh⟩
    · rw [hh] at hch ⊢
      exact ⟨hch.1, Int.le_refl _, ⟨Int.le_refl _, hch.2.1, trivial⟩, rfl⟩
    · rw [hh]
      exact ⟨Int.le_refl _, Int.le_refl _, trivial, rfl⟩
  · obtain ⟨f, hd, hf, hhd, e1, e2⟩ :=
      reduceSym_span_pos (startLoc := startLoc) c p ls (Nat.pos_of_ne_zero hn0) hn
    obtain ⟨-, g2, g3, g4⟩ := hord.get hf
    rw [Nat.sub_add_cancel (Nat.pos_of_ne_zero hn0)] at g2
    rw [e1, e2, ← topEnd_of_head (lo := startLoc) hhd]
    exact ⟨g2, Int.le_trans g3 g4, hch, rfl⟩

theorem SpanInv.reduce {c c' : Cfg} {ph : Phase} {p n : Nat} {ls : Option Int}
    (h : SpanInv startLoc c ph) (hnd : phDone ph = false)
    (hheld : (∃ la : Tok, ls = some la.l ∧ held ph = [la]) ∨ (ls = none ∧ held ph = []))
    (hn : n ≤ c.symbols.length)
    (hsym : c'.symbols = reduceSym startLoc c p n ls :: c.symbols.drop n)
    (hloc : c'.lastLoc = c.lastLoc) : SpanInv startLoc c' ph := by
  have hord := h.ord hnd
  obtain ⟨s1, s2, s3, s4⟩ := reduceSym_span p hord (h.chain hnd) hheld hn
  refine ⟨fun _ => ?_, fun _ => ?_, fun _ => ?_, fun _ => ?_⟩
  · rw [hsym]
    exact ⟨hord.drop n, s1, s2⟩
  · rw [hsym]
    exact s3
  · rw [hsym, hloc]
    exact s4 ▸ h.last hnd
  · rw [hsym]
    intro s hs e d hsd
    rcases List.mem_cons.mp hs with rfl | hs
    · simp [reduceSym] at hsd
    · exact h.cover hnd s (List.mem_of_mem_drop hs) e d hsd

theorem recEnd_facts {c : Cfg} {la : Option (Tok × Term)} {dropped : List Tok} {sl top : Nat} {l r : Int}
    (hch : MonoFrom (topEnd startLoc c.symbols) (dropped ++ laToks la))
    (hlast : lastOf (topEnd startLoc c.symbols) (dropped ++ laToks la) ≤ c.lastLoc)
    (hl1 : dropped = [] → l ≤ topEnd startLoc c.symbols) (hl2 : MonoFrom l dropped)
    (hr : recEnd c la dropped sl top l = .ok r) :
    (top + 1 < sl → topEnd startLoc c.symbols ≤ r) ∧ l ≤ r ∧ (∀ t ∈ dropped, l ≤ t.l ∧ t.r ≤ r) ∧
      MonoFrom r (laToks la) ∧ lastOf r (laToks la) ≤ c.lastLoc := by
  unfold recEnd at hr
  cases hg : dropped.getLast? with
  | some d =>
    -- tokens were dropped: `r` is the end of the last one, which is `lastOf lo dropped` for any `lo`
    rw [hg] at hr
    cases hr
    have hlo (lo : Int) : lastOf lo dropped = d.r := lastOf_eq_getLast hg
    obtain ⟨m1, m2⟩ := monoFrom_append.mp hch
    rw [lastOf_append, hlo] at hlast
    rw [hlo] at m2
    refine ⟨fun _ => hlo _ ▸ m1.le_lastOf, hlo l ▸ hl2.le_lastOf, fun t ht => ?_, m2, hlast⟩
    have := hl2.mem ht
    rw [hlo] at this
    exact ⟨this.1, this.2.2⟩
  | none =>
    rw [hg] at hr
    simp only at hr
    have hnil : dropped = [] := List.getLast?_eq_none_iff.mp hg
    subst hnil
    have hl := hl1 rfl
    simp only [List.nil_append] at hch hlast
    split at hr
    · -- nothing dropped, symbols popped: `r` is the end of the old top
      cases hsy : c.symbols with
      | nil => rw [hsy] at hr; cases hr
      | cons s rest =>
        rw [hsy] at hr hch hlast hl
        cases hr
        exact ⟨fun _ => Int.le_refl _, hl, by simp, hch, hlast⟩
    · -- nothing dropped, nothing popped: the span is empty, at the lookahead or at `l`
      rename_i hgt
      refine ⟨fun h => (hgt (Nat.lt_sub_of_add_lt h)).elim, ?_⟩
      rcases la with _ | ⟨t, i⟩
      · cases hr
        simp only [laToks, lastOf] at hlast ⊢
        exact ⟨Int.le_refl _, by simp, trivial, by omega⟩
      · cases hr
        simp only [laToks, MonoFrom, lastOf] at hch hlast ⊢
        exact ⟨by omega, by simp, ⟨Int.le_refl _, hch.2.1, trivial⟩, hlast⟩

theorem SpanInv.push {c : Cfg} {la : Option (Tok × Term)} {e : PErr} {dropped : List Tok} {sl top : Nat}
    {fe : Bool} {c' : Cfg} {ph' : Phase} (h : SpanInv startLoc c (.recFind la e dropped sl fe))
    (hp : PushSpec T startLoc c la e dropped sl top fe c' ph') : SpanInv startLoc c' ph' := by
  cases hp with
  | panic tag => exact .of_done _ _
  | ok l r hl hr rs rest hrs a ha es hes =>
    have hord := h.ord rfl
    have hch := h.chain rfl
    have hla := h.last rfl
    simp only [held] at hch hla
    obtain ⟨-, s1, s2, s3⟩ := recStart_facts hord hch hl
    obtain ⟨-, r1, r2, r3, r4⟩ := recEnd_facts hch hla s2 s3 hr
    have hord' : Ordered startLoc (recCfg c es top (l, Tree.err e dropped, r)).symbols :=
      ⟨hord.drop _, s1, r1⟩
    have hcov' : ErrCover (recCfg c es top (l, Tree.err e dropped, r)).symbols := by
      intro s hs e' d' hsd
      rcases List.mem_cons.mp hs with rfl | hs
      · simp only at hsd
        injection hsd with h1 h2
        subst h2
        exact ⟨r1, r2⟩
      · exact h.cover rfl s (List.mem_of_mem_drop hs) e' d' hsd
    exact ⟨fun _ => hord', fun hnd => held_afterPh hnd ▸ r3, fun hnd => held_afterPh hnd ▸ r4, fun _ => hcov'⟩

theorem SpanInv.step {input : List Item} {c c' : Cfg} {ph ph' : Phase}
    (hmono : MonoFrom startLoc (toksOf input))
    (hio : IOInv T startLoc input c ph) (h : SpanInv startLoc c ph)
    (hs : Step T af failAt startLoc c ph c' ph') : SpanInv startLoc c' ph' := by
  cases hs with
  | done r => exact h
  | panic _ tag hd => exact .of_done _ _
  | pull _ nt hn =>
    cases hn with
    | eof hh => exact h.congr rfl rfl rfl rfl
    | err e rest hh => exact .of_done _ _
    | found t i rest hh hk =>
      obtain ⟨h1, h2⟩ := next_tok_mono hmono hio hh
      have hl := h.last rfl
      simp only [held, lastOf] at hl
      refine ⟨fun _ => h.ord rfl, fun _ => ?_, fun _ => ?_, fun _ => h.cover rfl⟩
      · exact ⟨by simp only [pullTokCfg]; omega, h2, trivial⟩
      · exact Int.le_refl _
    | unrec t rest hh hk ex hex => exact .of_done _ _
    | panic t rest hh hk tag => exact .of_done _ _
  | shift la idx top rest a target hst ha hsh =>
    have hc := h.chain rfl
    have hl := h.last rfl
    simp only [held, MonoFrom, lastOf] at hc hl
    refine ⟨fun _ => ⟨h.ord rfl, hc.1, hc.2.1⟩, fun _ => trivial, fun _ => hl, fun _ => ?_⟩
    intro s hs e d hsd
    rcases List.mem_cons.mp hs with rfl | hs
    · cases hsd
    · exact h.cover rfl s hs e d hsd
  | redCont _ p ls _ hctx hr =>
    obtain ⟨hnd, hheld⟩ := hctx.held_eq
    cases hr with
    | cont n A hn hlen hnf hlhs hst below more hss => exact h.reduce hnd hheld hn rfl rfl
  | redFin _ p ls _ r hctx hr => exact .of_done _ _
  | enterNoRec _ la fe ex hctx hex hrec => exact .of_done _ _
  | enterRec _ la fe ex hctx hex hrec =>
    exact h.congr hctx.held.1 rfl rfl hctx.held.2.symm
  | toFind la e fe top rest a hst ha hnr => exact h.congr rfl rfl rfl rfl
  | push la e dropped sl fe top hf _ _ hp => exact h.push hp
  | giveUp e dropped sl fe hf => exact .of_done _ _
  | drop t i e dropped sl fe hf _ nt hn =>
    have hc := h.chain rfl
    have hl := h.last rfl
    simp only [held, laToks] at hc hl
    cases hn with
    | eof hh => exact h.congr rfl rfl rfl (List.append_nil _)
    | err e rest hh => exact .of_done _ _
    | found t' i' rest hh hk =>
      obtain ⟨h1, h2⟩ := next_tok_mono hmono hio hh
      obtain ⟨m1, m2⟩ := monoFrom_snoc hc (by omega) h2
      refine ⟨fun _ => h.ord rfl, fun _ => ?_, fun _ => ?_, fun _ => h.cover rfl⟩
      · simpa [dropK, held, laToks, pullTokCfg] using m1
      · simp only [dropK, held, laToks, pullTokCfg]; rw [m2]; exact Int.le_refl _
    | unrec t rest hh hk ex hex => exact .of_done _ _
    | panic t rest hh hk tag => exact .of_done _ _


theorem spaninv_of_run {input : List Item} (hmono : MonoFrom startLoc (toksOf input)) {n : Nat} {c : Cfg}
    {ph : Phase} (h : run T af failAt startLoc n (init startLoc input) .pull = (c, ph)) :
    SpanInv startLoc c ph :=
  (inv_of_run (SpanInv startLoc) (SpanInv.init input) (fun _ _ _ _ hio hsp hs => hsp.step hmono hio hs) h).2

end LalrpopModel.LR.Generic
