import LalrpopModel.Model.Inline
/-!
Semantics used by the C14 theorems: derivations of the lowered grammar with values, the meaning
of action functions (user actions are arbitrary functions, `Inline` actions are what
`emit_inline_action_code` generates), and runs with error propagation in LR reduction order.
-/
set_option linter.unusedSectionVars false

namespace LalrpopModel.Inline

variable {N T X : Type} [DecidableEq N] [DecidableEq T]

/-- outcome of running an action function -/
inductive Res (E V : Type) where
  | ok (v : V)
  | err (e : E)      -- `Err(ParseError::User { error })` of a fallible action
  | stuck            -- ill-formed call (missing definition / argument); never happens for
                     -- well-formed grammars, kept explicit instead of defaulting
  deriving DecidableEq, Repr

namespace Res
variable {E V W : Type}

def bind : Res E V → (V → Res E W) → Res E W
  | .ok v, f => f v
  | .err e, _ => .err e
  | .stuck, _ => .stuck

def map (f : V → W) : Res E V → Res E W
  | .ok v => .ok (f v)
  | .err e => .err e
  | .stuck => .stuck

@[simp] theorem bind_ok (v : V) (f : V → Res E W) : (Res.ok v : Res E V).bind f = f v := rfl
@[simp] theorem bind_err (e : E) (f : V → Res E W) : (Res.err e : Res E V).bind f = .err e := rfl
@[simp] theorem bind_stuck (f : V → Res E W) : (Res.stuck : Res E V).bind f = .stuck := rfl
@[simp] theorem map_ok (f : V → W) (v : V) : (Res.ok v : Res E V).map f = .ok (f v) := rfl
@[simp] theorem map_err (f : V → W) (e : E) : (Res.err e : Res E V).map f = .err e := rfl
@[simp] theorem map_stuck (f : V → W) : (Res.stuck : Res E V).map f = .stuck := rfl

theorem bind_eq_ok {r : Res E V} {f : V → Res E W} {w : W} :
    r.bind f = .ok w ↔ ∃ v, r = .ok v ∧ f v = .ok w := by
  cases r <;> simp

theorem map_eq_ok {r : Res E V} {f : V → W} {w : W} :
    r.map f = .ok w ↔ ∃ v, r = .ok v ∧ f v = w := by
  cases r <;> simp

end Res

variable {E V : Type}

/-- meaning of action functions: index ↦ arguments ↦ outcome -/
abbrev Sem (E V : Type) := Nat → List V → Res E V

/-! ### what the generated code of an `Inline` action does -/

/-- run the steps of `plan` over the flat argument list, left to right: an `orig` step passes an
    argument through, an `inl` step calls the inlined action on its slice (`?` propagates its
    failure). Result: the argument list of the host action. -/
def runSteps (sem : Sem E V) (args : List V) : List Step → Res E (List V)
  | [] => .ok []
  | .orig a :: rest =>
    match args[a]? with
    | none => .stuck
    | some v => (runSteps sem args rest).map (v :: ·)
  | .inl _ act start len :: rest =>
    (sem act ((args.drop start).take len)).bind fun v => (runSteps sem args rest).map (v :: ·)

/-- the generated function: temporaries, then the host action -/
def runInline (sem : Sem E V) (action : Nat) (symbols : List (InlinedSymbol N T)) (args : List V) :
    Res E V :=
  (runSteps sem args (plan symbols)).bind (sem action)

/-- meaning of the first `k` action functions; `user i` is interpreted by `I i`. An `Inline`
    action at index `k` refers to earlier actions only (later ones are `stuck`). -/
def semUpTo (defs : List (Defn N T X)) (I : Sem E V) : Nat → Sem E V
  | 0 => fun _ _ => .stuck
  | k + 1 => fun idx args =>
    if idx < k then semUpTo defs I k idx args
    else if idx = k then
      match defs[k]? with
      | none => .stuck
      | some d =>
        match d.kind with
        | .user _ => I k args
        | .inline a syms => runInline (semUpTo defs I k) a syms args
    else .stuck

/-- meaning of the action functions of a grammar -/
def semOf (defs : List (Defn N T X)) (I : Sem E V) : Sem E V := semUpTo defs I defs.length

/-! ### the same, by structural recursion over the inlined symbols (no index arithmetic) -/

def composeArgs (sem : Sem E V) : List (InlinedSymbol N T) → List V → Res E (List V)
  | [], _ => .ok []
  | .original _ :: _, [] => .stuck
  | .original _ :: rest, a :: args => (composeArgs sem rest args).map (a :: ·)
  | .inlined act syms :: rest, args =>
    (sem act (args.take syms.length)).bind fun v =>
      (composeArgs sem rest (args.drop syms.length)).map (v :: ·)

/-- `Eval g sem tv ss w vs`: the symbols `ss` derive the word `w`, all actions succeed, and the
    values of the symbols are `vs` (terminal `t` has value `tv t`). -/
inductive Eval (g : Grammar N T X) (sem : Sem E V) (tv : T → V) :
    List (Symbol N T) → List T → List V → Prop where
  | nil : Eval g sem tv [] [] []
  | term (t : T) {ss w vs} : Eval g sem tv ss w vs → Eval g sem tv (.term t :: ss) (t :: w) (tv t :: vs)
  | nt (n : N) (p : Production N T) {u args v ss w vs} :
      p ∈ g.productionsFor n → Eval g sem tv p.symbols u args → sem p.action args = .ok v →
      Eval g sem tv ss w vs → Eval g sem tv (.nt n :: ss) (u ++ w) (v :: vs)

/-- plain derivations (no values) -/
inductive Derives (g : Grammar N T X) : List (Symbol N T) → List T → Prop where
  | nil : Derives g [] []
  | term (t : T) {ss w} : Derives g ss w → Derives g (.term t :: ss) (t :: w)
  | nt (n : N) (p : Production N T) {u ss w} :
      p ∈ g.productionsFor n → Derives g p.symbols u → Derives g ss w →
      Derives g (.nt n :: ss) (u ++ w)

/-- `Run g sem tv ss w r`: outcome of parsing `w` as `ss` when actions run at reductions, i.e.
    bottom-up, left to right, and the first failing action ends the parse with its error. -/
inductive Run (g : Grammar N T X) (sem : Sem E V) (tv : T → V) :
    List (Symbol N T) → List T → Res E (List V) → Prop where
  | nil : Run g sem tv [] [] (.ok [])
  | term (t : T) {ss w r} : Run g sem tv ss w r → Run g sem tv (.term t :: ss) (t :: w) (r.map (tv t :: ·))
  | ntOk (n : N) (p : Production N T) {u args v ss w r} :
      p ∈ g.productionsFor n → Run g sem tv p.symbols u (.ok args) → sem p.action args = .ok v →
      Run g sem tv ss w r → Run g sem tv (.nt n :: ss) (u ++ w) (r.map (v :: ·))
  | ntChildFail (n : N) (p : Production N T) {u e ss w} :
      p ∈ g.productionsFor n → Run g sem tv p.symbols u (.err e) → Derives g ss w →
      Run g sem tv (.nt n :: ss) (u ++ w) (.err e)
  | ntActionFail (n : N) (p : Production N T) {u args e ss w} :
      p ∈ g.productionsFor n → Run g sem tv p.symbols u (.ok args) → sem p.action args = .err e →
      Derives g ss w → Run g sem tv (.nt n :: ss) (u ++ w) (.err e)

namespace Eval

theorem length_eq {g : Grammar N T X} {sem : Sem E V} {tv : T → V} {ss w vs}
    (h : Eval g sem tv ss w vs) : vs.length = ss.length := by
  induction h with
  | nil => rfl
  | term _ _ ih => rw [List.length_cons, List.length_cons, ih]
  | nt _ _ _ _ _ _ _ ih => rw [List.length_cons, List.length_cons, ih]

theorem append {g : Grammar N T X} {sem : Sem E V} {tv : T → V} {ss1 w1 vs1 ss2 w2 vs2}
    (h1 : Eval g sem tv ss1 w1 vs1) (h2 : Eval g sem tv ss2 w2 vs2) :
    Eval g sem tv (ss1 ++ ss2) (w1 ++ w2) (vs1 ++ vs2) := by
  induction h1 with
  | nil => exact h2
  | term t _ ih => exact Eval.term t ih
  | nt n p hp hc hs _ _ ih =>
    rw [List.append_assoc]
    exact Eval.nt n p hp hc hs ih

/-- the first symbol of an evaluation: its word and value, the evaluation of the rest, and a way
    of putting the same first symbol in front of any other evaluation -/
theorem uncons {g : Grammar N T X} {sem : Sem E V} {tv : T → V} {s : Symbol N T} {ss w vs}
    (h : Eval g sem tv (s :: ss) w vs) :
    ∃ w1 w2 v vs', w = w1 ++ w2 ∧ vs = v :: vs' ∧ Eval g sem tv ss w2 vs' ∧
      ∀ {ss' w' vs''}, Eval g sem tv ss' w' vs'' → Eval g sem tv (s :: ss') (w1 ++ w') (v :: vs'') := by
  cases h with
  | term t h' => exact ⟨[t], _, _, _, rfl, rfl, h', fun h'' => Eval.term t h''⟩
  | nt n p hp hc hs h' => exact ⟨_, _, _, _, rfl, rfl, h', fun h'' => Eval.nt n p hp hc hs h''⟩

theorem split {g : Grammar N T X} {sem : Sem E V} {tv : T → V} (ss1 : List (Symbol N T))
    {ss2 w vs} (h : Eval g sem tv (ss1 ++ ss2) w vs) :
    ∃ w1 w2 vs1 vs2, w = w1 ++ w2 ∧ vs = vs1 ++ vs2 ∧
      Eval g sem tv ss1 w1 vs1 ∧ Eval g sem tv ss2 w2 vs2 := by
  induction ss1 generalizing w vs with
  | nil => exact ⟨[], w, [], vs, rfl, rfl, Eval.nil, h⟩
  | cons s ss1 ih =>
    obtain ⟨wa, _, v, _, rfl, rfl, h', put⟩ := uncons h
    obtain ⟨w1, w2, vs1, vs2, rfl, rfl, h1, h2⟩ := ih h'
    exact ⟨wa ++ w1, w2, v :: vs1, vs2, (List.append_assoc ..).symm, rfl, put h1, h2⟩

end Eval

/-! ### `semUpTo` only looks at the definitions below the bound -/

theorem semUpTo_eq (defs : List (Defn N T X)) (I : Sem E V) {k idx : Nat} (h : idx < k)
    {d : Defn N T X} (hd : defs[idx]? = some d) (args : List V) :
    semUpTo defs I k idx args =
      match d.kind with
      | .user _ => I idx args
      | .inline a syms => runInline (semUpTo defs I idx) a syms args := by
  induction k with
  | zero => exact absurd h (Nat.not_lt_zero _)
  | succ k ih =>
    by_cases hk : idx < k
    · simp only [semUpTo, hk, if_true, ih hk]
    · cases Nat.le_antisymm (Nat.le_of_lt_succ h) (Nat.le_of_not_lt hk)
      simp only [semUpTo, Nat.lt_irrefl, if_false, if_true, hd]

theorem semUpTo_append (defs extra : List (Defn N T X)) (I : Sem E V) (k : Nat)
    (hk : k ≤ defs.length) : semUpTo (defs ++ extra) I k = semUpTo defs I k := by
  induction k with
  | zero => rfl
  | succ k ih =>
    funext idx args
    simp only [semUpTo, ih (Nat.le_of_succ_le hk), List.getElem?_append_left hk]

theorem semOf_inline (defs : List (Defn N T X)) (I : Sem E V) (idx : Nat) (d : Defn N T X)
    (a : Nat) (syms : List (InlinedSymbol N T))
    (hd : defs[idx]? = some d) (hk : d.kind = .inline a syms) :
    semOf defs I idx = runInline (semUpTo defs I idx) a syms := by
  funext args
  rw [semOf, semUpTo_eq defs I (List.getElem?_eq_some_iff.mp hd).1 hd, hk]

theorem semOf_user (defs : List (Defn N T X)) (I : Sem E V) (idx : Nat) (d : Defn N T X) (u : X)
    (hd : defs[idx]? = some d) (hk : d.kind = .user u) : semOf defs I idx = I idx := by
  funext args
  rw [semOf, semUpTo_eq defs I (List.getElem?_eq_some_iff.mp hd).1 hd, hk]

theorem semUpTo_append_old (defs extra : List (Defn N T X)) (I : Sem E V) {k idx : Nat}
    (h : idx < defs.length) (hk : idx < k) :
    semUpTo (defs ++ extra) I k idx = semOf defs I idx := by
  have hd := List.getElem?_eq_getElem h
  funext args
  rw [semOf, semUpTo_eq defs I h hd, semUpTo_eq (defs ++ extra) I hk (d := defs[idx])
    (by rw [List.getElem?_append_left h, hd]), semUpTo_append _ _ _ _ (Nat.le_of_lt h)]

theorem semOf_append_old (defs extra : List (Defn N T X)) (I : Sem E V) (idx : Nat)
    (h : idx < defs.length) : semOf (defs ++ extra) I idx = semOf defs I idx :=
  semUpTo_append_old defs extra I h
    (Nat.lt_of_lt_of_le h (by rw [List.length_append]; exact Nat.le_add_right ..))

/-! ### index arithmetic of the generated code = structural composition -/

theorem runSteps_planFrom (sem : Sem E V) (syms : List (InlinedSymbol N T)) (all : List V)
    (k temp : Nat) :
    runSteps sem all (planFrom k temp syms) = composeArgs sem syms (all.drop k) := by
  induction syms generalizing k temp with
  | nil => rfl
  | cons s rest ih =>
    cases s with
    | original sym =>
      by_cases hk : k < all.length
      · simp only [planFrom, runSteps, composeArgs, List.getElem?_eq_getElem hk,
          List.drop_eq_getElem_cons hk, ih]
      · have hk := Nat.le_of_not_lt hk
        simp only [planFrom, runSteps, composeArgs, List.getElem?_eq_none hk,
          List.drop_eq_nil_of_le hk]
    | inlined act ss => simp only [planFrom, runSteps, composeArgs, ih, List.drop_drop]

theorem runInline_eq_compose (sem : Sem E V) (action : Nat) (syms : List (InlinedSymbol N T))
    (args : List V) :
    runInline sem action syms args = (composeArgs sem syms args).bind (sem action) := by
  rw [runInline, plan, runSteps_planFrom]
  rfl

theorem composeArgs_append (sem : Sem E V) {c₁ : List (InlinedSymbol N T)} {args₁ vs : List V}
    (h₁ : composeArgs sem c₁ args₁ = .ok vs)
    (hlen : args₁.length = (c₁.flatMap InlinedSymbol.flat).length)
    (c₂ : List (InlinedSymbol N T)) (args₂ : List V) :
    composeArgs sem (c₁ ++ c₂) (args₁ ++ args₂) = (composeArgs sem c₂ args₂).map (vs ++ ·) := by
  induction c₁ generalizing args₁ vs with
  | nil =>
    cases List.eq_nil_of_length_eq_zero hlen
    cases h₁
    rw [List.nil_append, List.nil_append]
    cases composeArgs sem c₂ args₂ <;> rfl
  | cons s rest ih =>
    rw [List.flatMap_cons, List.length_append] at hlen
    cases s with
    | original sym =>
      cases args₁ with
      | nil => cases h₁
      | cons x xs =>
        rw [composeArgs] at h₁
        obtain ⟨vs', hvs', rfl⟩ := Res.map_eq_ok.mp h₁
        rw [List.cons_append, List.cons_append, composeArgs,
          ih hvs' (Nat.succ.inj (hlen.trans (Nat.add_comm ..)))]
        cases composeArgs sem c₂ args₂ <;> rfl
    | inlined act ss =>
      have hle : ss.length ≤ args₁.length := hlen ▸ Nat.le_add_right ..
      rw [composeArgs] at h₁
      obtain ⟨v, hv, hrest⟩ := Res.bind_eq_ok.mp h₁
      obtain ⟨vs', hvs', rfl⟩ := Res.map_eq_ok.mp hrest
      rw [List.cons_append, composeArgs, List.take_append_of_le_length hle,
        List.drop_append_of_le_length hle, hv, Res.bind_ok,
        ih hvs' (by rw [List.length_drop, hlen]; exact Nat.add_sub_cancel_left ..)]
      cases composeArgs sem c₂ args₂ <;> rfl

theorem run_head_err {g : Grammar N T X} {sem : Sem E V} {tv : T → V} {n : N} {ss w r} {e : E}
    (h : Run g sem tv (.nt n :: ss) w r)
    (hall : ∀ p ∈ g.productionsFor n, ∀ u rc, Run g sem tv p.symbols u rc →
      rc.bind (sem p.action) = .err e) : r = .err e := by
  cases h with
  | ntOk _ p hp hc hs _ =>
    have := hall p hp _ _ hc
    rw [Res.bind_ok, hs] at this
    cases this
  | ntChildFail _ p hp hc _ =>
    have := hall p hp _ _ hc
    rw [Res.bind_err] at this
    cases this
    rfl
  | ntActionFail _ p hp hc hs _ =>
    have := hall p hp _ _ hc
    rw [Res.bind_ok, hs] at this
    cases this
    rfl

theorem run_single_term {g : Grammar N T X} {sem : Sem E V} {tv : T → V} {t : T} {w r}
    (h : Run g sem tv [.term t] w r) : r = .ok [tv t] := by
  cases h with
  | term _ h' =>
    cases h'
    rfl

end LalrpopModel.Inline
