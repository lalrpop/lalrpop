import LalrpopModel.Lemmas.LRCanonConflicts
import LalrpopModel.Lemmas.SymVariant
/-!
M-CANON lemmas: the worklist of `buildStates` accumulates exactly the conflicts of the
states it builds; the LALR collapse (`internAll`, `members`, `mmCollect`, `redCollect`).
-/
namespace LalrpopModel.LR.Canon

open LalrpopModel.LR

theorem buildLoop_conflicts (G : Grammar) (fs : List TokenSet) :
    ∀ (fuel : Nat) (all : List (List Item)) (states : List State) (confl : List Conflict) (b : Built),
      buildLoop G fs fuel all states confl = some b → confl = states.flatMap conflicts →
      b.conflicts = b.states.flatMap conflicts := by
  intro fuel
  induction fuel with
  | zero => intro all states confl b h; cases h
  | succ k ih =>
    intro all states confl b h hinv
    unfold buildLoop at h
    split at h
    · cases h
      exact hinv
    · split at h
      · cases h
      · refine ih _ _ _ _ h ?_
        rw [List.flatMap_append, hinv, List.flatMap_singleton]

theorem buildStates_conflicts {G : Grammar} {fuel : Nat} {b : Built} (h : buildStates G fuel = some b) :
    b.conflicts = b.states.flatMap conflicts := by
  unfold buildStates at h
  split at h
  · exact buildLoop_conflicts _ _ _ _ _ _ _ h rfl
  · cases h

/-! `lalr1_map.entry(kernel).or_insert_with(next index)` numbers the LR(0) kernels by first
appearance: the loop by which `write_value_type_defn` numbers the symbol types
(`SymVariant.assign`), whose lemmas (`Lemmas/SymVariant.lean`) therefore apply. -/

theorem lookupIdx_eq_pos (k : List Item0) (tbl : List (List Item0)) :
    lookupIdx k tbl = SymVariant.pos k tbl := by
  induction tbl with
  | nil => rfl
  | cons x xs ih => rw [lookupIdx, SymVariant.pos, ih]

theorem internAll_eq_assign (ks tbl : List (List Item0)) : internAll ks tbl = SymVariant.assign ks tbl := by
  induction ks generalizing tbl with
  | nil => rfl
  | cons k ks ih =>
    rw [internAll, SymVariant.assign, lookupIdx_eq_pos, ih, ih]
    cases SymVariant.pos k tbl <;> rfl

theorem mem_members {states : List State} {remap : List Nat} {k : Nat} {m : State} :
    m ∈ members states remap k ↔ ∃ i : Nat, states[i]? = some m ∧ remap[i]? = some k := by
  rw [members, List.mem_filterMap]
  constructor
  · rintro ⟨p, hp, hk⟩
    obtain ⟨i, hi⟩ := List.mem_iff_getElem?.1 hp
    rw [List.getElem?_zip_eq_some] at hi
    rw [Option.ite_none_right_eq_some, Option.some.injEq] at hk
    exact ⟨i, hk.2 ▸ hi.1, hk.1 ▸ hi.2⟩
  · rintro ⟨i, h1, h2⟩
    exact ⟨(m, k), List.mem_iff_getElem?.2 ⟨i, List.getElem?_zip_eq_some.2 ⟨h1, h2⟩⟩, if_pos rfl⟩

theorem exists_mem_flatMap_members {α : Type} {states : List State} {remap : List Nat} {k : Nat}
    (f : State → List α) (p : α → Prop) :
    (∃ x ∈ (members states remap k).flatMap f, p x) ↔
      ∃ (i : Nat) (s : State), states[i]? = some s ∧ remap[i]? = some k ∧ ∃ x ∈ f s, p x := by
  constructor
  · rintro ⟨x, hx, hp⟩
    obtain ⟨s, hs, hxs⟩ := List.mem_flatMap.1 hx
    obtain ⟨i, h1, h2⟩ := mem_members.1 hs
    exact ⟨i, s, h1, h2, x, hxs, hp⟩
  · rintro ⟨i, s, h1, h2, x, hxs, hp⟩
    exact ⟨x, List.mem_flatMap.2 ⟨s, mem_members.2 ⟨i, h1, h2⟩, hxs⟩, hp⟩

/-! ### the item multimap: lookaheads are unioned per LR(0) core -/

/-- `tok` is a lookahead of core `c` somewhere in the item list -/
def HasLa (items : List Item) (c : Item0) (tok : Nat) : Prop :=
  ∃ it ∈ items, it.core = c ∧ tok ∈ it.la

theorem hasLa_nil (c : Item0) (tok : Nat) : HasLa [] c tok ↔ False := by
  simp [HasLa]

theorem hasLa_cons (it : Item) (m : List Item) (c : Item0) (tok : Nat) :
    HasLa (it :: m) c tok ↔ (it.core = c ∧ tok ∈ it.la) ∨ HasLa m c tok := by
  simp only [HasLa, List.mem_cons, or_and_right, exists_or, exists_eq_left]

theorem hasLa_cons_new (c : Item0) (la : TokenSet) (m : List Item) (c' : Item0) (tok : Nat) :
    HasLa (⟨c.1, c.2, tsUnion [] la⟩ :: m) c' tok ↔ (c = c' ∧ tok ∈ la) ∨ HasLa m c' tok := by
  simp only [hasLa_cons, Item.core, Prod.eta, mem_tsUnion, List.not_mem_nil, false_or]

/-- `Multimap::push` adds `la` to the lookaheads of `c` and changes nothing else. -/
theorem hasLa_mmPush (c : Item0) (la : TokenSet) (m : List Item) (c' : Item0) (tok : Nat) :
    HasLa (mmPush c la m).1 c' tok ↔ (c = c' ∧ tok ∈ la) ∨ HasLa m c' tok := by
  induction m with
  | nil => exact hasLa_cons_new c la [] c' tok
  | cons it rest ih =>
    simp only [mmPush]
    split
    · rename_i hc
      subst hc
      simp only [hasLa_cons, Item.core, mem_tsUnion, and_or_left, or_assoc]
      exact or_left_comm
    · split
      · exact hasLa_cons_new c la (it :: rest) c' tok
      · rw [hasLa_cons, hasLa_cons, ih]
        exact or_left_comm

/-- `.collect::<Multimap<Lr0Item, TokenSet>>()`: the lookaheads of a core are the union of the
    lookaheads of all the collected items with that core -/
theorem hasLa_mmCollect (items : List Item) (c : Item0) (tok : Nat) :
    HasLa (mmCollect items) c tok ↔ HasLa items c tok := by
  have h (m : List Item) : HasLa (items.foldl (fun m it => (mmPush it.core it.la m).1) m) c tok ↔
      HasLa items c tok ∨ HasLa m c tok := by
    induction items generalizing m with
    | nil => simp [hasLa_nil]
    | cons it rest ih =>
      rw [List.foldl_cons, ih, hasLa_mmPush, hasLa_cons]
      exact or_left_comm.trans or_assoc.symm
  rw [mmCollect, h, hasLa_nil, or_false]

/-- `tok` is a lookahead of reducing production `p` -/
def RedLa (rs : List (TokenSet × Nat)) (p : Nat) (tok : Nat) : Prop :=
  ∃ r ∈ rs, r.2 = p ∧ tok ∈ r.1

theorem redLa_nil (p tok : Nat) : RedLa [] p tok ↔ False := by
  simp [RedLa]

theorem redLa_cons (r : TokenSet × Nat) (m : List (TokenSet × Nat)) (p tok : Nat) :
    RedLa (r :: m) p tok ↔ (r.2 = p ∧ tok ∈ r.1) ∨ RedLa m p tok := by
  simp only [RedLa, List.mem_cons, or_and_right, exists_or, exists_eq_left]

theorem redLa_cons_new (p : Nat) (la : TokenSet) (m : List (TokenSet × Nat)) (p' tok : Nat) :
    RedLa ((tsUnion [] la, p) :: m) p' tok ↔ (p = p' ∧ tok ∈ la) ∨ RedLa m p' tok := by
  simp only [redLa_cons, mem_tsUnion, List.not_mem_nil, false_or]

theorem redLa_redPush (p : Nat) (la : TokenSet) (m : List (TokenSet × Nat)) (p' : Nat) (tok : Nat) :
    RedLa (redPush p la m) p' tok ↔ (p = p' ∧ tok ∈ la) ∨ RedLa m p' tok := by
  induction m with
  | nil => exact redLa_cons_new p la [] p' tok
  | cons r rest ih =>
    simp only [redPush]
    split
    · rename_i hc
      subst hc
      simp only [redLa_cons, mem_tsUnion, and_or_left, or_assoc]
      exact or_left_comm
    · split
      · exact redLa_cons_new p la (r :: rest) p' tok
      · rw [redLa_cons, redLa_cons, ih]
        exact or_left_comm

theorem redLa_redCollect (rs : List (TokenSet × Nat)) (p : Nat) (tok : Nat) :
    RedLa (redCollect rs) p tok ↔ RedLa rs p tok := by
  have h (m : List (TokenSet × Nat)) : RedLa (rs.foldl (fun m r => redPush r.2 r.1 m) m) p tok ↔
      RedLa rs p tok ∨ RedLa m p tok := by
    induction rs generalizing m with
    | nil => simp [redLa_nil]
    | cons r rest ih =>
      rw [List.foldl_cons, ih, redLa_redPush, redLa_cons]
      exact or_left_comm.trans or_assoc.symm
  rw [redCollect, h, redLa_nil, or_false]

theorem allSome_eq_some {α : Type} {l : List (Option α)} {r : List α} (h : allSome l = some r) :
    l = r.map some := by
  induction l generalizing r with
  | nil => cases h; rfl
  | cons x xs ih =>
    cases x with
    | none => cases h
    | some a =>
      rw [allSome] at h
      obtain ⟨r', hr', rfl⟩ := Option.map_eq_some_iff.1 h
      rw [ih hr', List.map_cons]

theorem lalrState_some {states : List State} {remap : List Nat} {k : Nat} {st : State}
    (h : lalrState states remap k = some st) :
    st.index = k ∧
    st.items = mmCollect ((members states remap k).flatMap (·.items)) ∧
    st.reductions = redCollect ((members states remap k).flatMap (·.reductions)) := by
  unfold lalrState at h
  simp only at h
  split at h
  · cases h
    exact ⟨rfl, rfl, rfl⟩
  · cases h

theorem lalrState_hasLa {states : List State} {remap : List Nat} {k : Nat} {st : State}
    (h : lalrState states remap k = some st) (c : Item0) (tok : Nat) :
    HasLa st.items c tok ↔
      ∃ (i : Nat) (s : State), states[i]? = some s ∧ remap[i]? = some k ∧ HasLa s.items c tok := by
  rw [(lalrState_some h).2.1, hasLa_mmCollect]
  exact exists_mem_flatMap_members (·.items) fun it => it.core = c ∧ tok ∈ it.la

theorem lalrState_redLa {states : List State} {remap : List Nat} {k : Nat} {st : State}
    (h : lalrState states remap k = some st) (p tok : Nat) :
    RedLa st.reductions p tok ↔
      ∃ (i : Nat) (s : State), states[i]? = some s ∧ remap[i]? = some k ∧ RedLa s.reductions p tok := by
  rw [(lalrState_some h).2.2, redLa_redCollect]
  exact exists_mem_flatMap_members (·.reductions) fun r => r.2 = p ∧ tok ∈ r.1

theorem collapse_ok {states : List State} {b : Built} {remap : List Nat}
    (h : collapse states = .ok b remap) :
    remap = (internAll (states.map lr0Kernel) []).1 ∧
    b.states.length = (internAll (states.map lr0Kernel) []).2.length ∧
    (∀ (k : Nat) (st : State), b.states[k]? = some st → lalrState states remap k = some st) ∧
    b.conflicts = b.states.flatMap conflicts := by
  unfold collapse at h
  dsimp only at h
  split at h
  · rename_i sts hsts
    rw [Collapsed.ok.injEq] at h
    obtain ⟨rfl, rfl⟩ := h
    have hmap := allSome_eq_some hsts
    have hlen := congrArg List.length hmap
    rw [List.length_map, List.length_range, List.length_map] at hlen
    refine ⟨rfl, hlen.symm, fun k st hst => ?_, rfl⟩
    have hk := congrArg (fun l => l[k]?) hmap
    rw [List.getElem?_map, List.getElem?_map, hst,
      List.getElem?_range (hlen ▸ (List.getElem?_eq_some_iff.1 hst).1), Option.map_some,
      Option.map_some] at hk
    exact Option.some.inj hk
  · cases h

end LalrpopModel.LR.Canon
