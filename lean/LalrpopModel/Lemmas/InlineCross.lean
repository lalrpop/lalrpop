import LalrpopModel.Model.Inline
/-!
Specification of `Inliner::inline` as a cross product, and the proof that the model function
computes it (used by Props/C14 `cross_product_complete`).
-/
set_option linter.unusedSectionVars false

namespace LalrpopModel.Inline

variable {N T X : Type} [DecidableEq N] [DecidableEq T]

/-- All ways of choosing, for every occurrence of `inl` in `syms`, one of its productions — in the
    order in which `Inliner::inline` emits them (leftmost occurrence varies slowest). -/
def choices (inl : N) (inlProds : List (Production N T)) :
    List (Symbol N T) → List (List (InlinedSymbol N T))
  | [] => [[]]
  | s :: rest =>
    if s = .nt inl then
      inlProds.flatMap fun ip => (choices inl inlProds rest).map (.inlined ip.action ip.symbols :: ·)
    else (choices inl inlProds rest).map (.original s :: ·)

/-- `action_is_fallible` with the out-of-range panic replaced by `false` (specification only) -/
def isFallible (defs : List (Defn N T X)) (a : Nat) : Bool :=
  match defs[a]? with
  | some d => d.fallible
  | none => false

/-- number of fallible inlined actions in a choice -/
def fallibleCount (defs : List (Defn N T X)) : List (InlinedSymbol N T) → Nat
  | [] => 0
  | .original _ :: rest => fallibleCount defs rest
  | .inlined a _ :: rest => (if isFallible defs a then 1 else 0) + fallibleCount defs rest

/-- the `InlineActionFnDefn` built for host production `into` and choice `syms`, when `fall`
    fallible actions were inlined -/
def mkDefn (intoDef : Defn N T X) (into : Production N T) (fall : Nat)
    (syms : List (InlinedSymbol N T)) : Defn N T X :=
  { fallible := intoDef.fallible || (fall != 0)
    retType := intoDef.retType
    kind := .inline into.action syms }

/-- the new productions for a list of choices, numbered consecutively from `base` -/
def numbered (into : Production N T) (pre : List (InlinedSymbol N T)) :
    Nat → List (List (InlinedSymbol N T)) → List (Production N T)
  | _, [] => []
  | base, c :: cs =>
    { nonterminal := into.nonterminal, symbols := (pre ++ c).flatMap InlinedSymbol.flat, action := base }
      :: numbered into pre (base + 1) cs

section
variable {inl : N} {inlProds : List (Production N T)} {c : List (InlinedSymbol N T)}

theorem mem_choices_nil : c ∈ choices inl inlProds [] ↔ c = [] := by
  rw [choices, List.mem_singleton]

theorem mem_choices_cons_inl {rest : List (Symbol N T)} :
    c ∈ choices inl inlProds (.nt inl :: rest) ↔
      ∃ ip ∈ inlProds, ∃ c₀ ∈ choices inl inlProds rest, c = .inlined ip.action ip.symbols :: c₀ := by
  simp only [choices, if_true, List.mem_flatMap, List.mem_map, eq_comm]

theorem mem_choices_cons_other {s : Symbol N T} {rest : List (Symbol N T)} (hs : s ≠ .nt inl) :
    c ∈ choices inl inlProds (s :: rest) ↔ ∃ c₀ ∈ choices inl inlProds rest, c = .original s :: c₀ := by
  simp only [choices, hs, if_false, List.mem_map, eq_comm]

theorem choices_elem {syms : List (Symbol N T)} (hc : c ∈ choices inl inlProds syms)
    {x : InlinedSymbol N T} (hx : x ∈ c) :
    (∃ s ∈ syms, s ≠ .nt inl ∧ x = .original s) ∨ ∃ ip ∈ inlProds, x = .inlined ip.action ip.symbols := by
  induction syms generalizing c with
  | nil => cases mem_choices_nil.mp hc; cases hx
  | cons s rest ih =>
    by_cases hs : s = .nt inl
    · subst hs
      obtain ⟨ip, hip, c₀, hc₀, rfl⟩ := mem_choices_cons_inl.mp hc
      rcases List.mem_cons.mp hx with rfl | hx
      · exact .inr ⟨ip, hip, rfl⟩
      · exact (ih hc₀ hx).imp_left (Exists.imp fun _ => And.imp_left (List.mem_cons_of_mem _))
    · obtain ⟨c₀, hc₀, rfl⟩ := (mem_choices_cons_other hs).mp hc
      rcases List.mem_cons.mp hx with rfl | hx
      · exact .inl ⟨s, List.mem_cons_self .., hs, rfl⟩
      · exact (ih hc₀ hx).imp_left (Exists.imp fun _ => And.imp_left (List.mem_cons_of_mem _))

end

theorem numbered_append (into : Production N T) (pre : List (InlinedSymbol N T)) (base : Nat)
    (xs ys : List (List (InlinedSymbol N T))) :
    numbered into pre base (xs ++ ys) = numbered into pre base xs ++ numbered into pre (base + xs.length) ys := by
  induction xs generalizing base with
  | nil => rfl
  | cons x xs ih =>
    rw [List.cons_append, numbered, numbered, ih, List.length_cons, List.cons_append,
      Nat.add_assoc, Nat.add_comm 1]

theorem numbered_length (into : Production N T) (pre : List (InlinedSymbol N T)) (base : Nat)
    (xs : List (List (InlinedSymbol N T))) : (numbered into pre base xs).length = xs.length := by
  induction xs generalizing base with
  | nil => rfl
  | cons x xs ih => rw [numbered, List.length_cons, List.length_cons, ih]

theorem numbered_map_cons (into : Production N T) (pre : List (InlinedSymbol N T))
    (x : InlinedSymbol N T) (base : Nat) (cs : List (List (InlinedSymbol N T))) :
    numbered into pre base (cs.map (x :: ·)) = numbered into (pre ++ [x]) base cs := by
  induction cs generalizing base with
  | nil => rfl
  | cons c cs ih =>
    rw [List.map_cons, numbered, numbered, ih, List.append_assoc, List.singleton_append]

theorem numbered_getElem? (into : Production N T) (pre : List (InlinedSymbol N T)) (base : Nat)
    (cs : List (List (InlinedSymbol N T))) (i : Nat) :
    (numbered into pre base cs)[i]? = cs[i]?.map fun c =>
      { nonterminal := into.nonterminal, symbols := (pre ++ c).flatMap InlinedSymbol.flat,
        action := base + i } := by
  induction cs generalizing base i with
  | nil => rfl
  | cons c cs ih =>
    cases i with
    | zero => rfl
    | succ i =>
      rw [numbered, List.getElem?_cons_succ, List.getElem?_cons_succ, ih, Nat.add_assoc,
        Nat.add_comm 1]

theorem mem_numbered {into : Production N T} {pre : List (InlinedSymbol N T)} {base : Nat}
    {cs : List (List (InlinedSymbol N T))} {p' : Production N T} :
    p' ∈ numbered into pre base cs ↔
      ∃ i c, cs[i]? = some c ∧
        { nonterminal := into.nonterminal, symbols := (pre ++ c).flatMap InlinedSymbol.flat,
          action := base + i } = p' := by
  simp only [List.mem_iff_getElem?, numbered_getElem?, Option.map_eq_some_iff]

theorem fallibleCount_append (defs : List (Defn N T X)) (xs ys : List (InlinedSymbol N T)) :
    fallibleCount defs (xs ++ ys) = fallibleCount defs xs + fallibleCount defs ys := by
  induction xs with
  | nil => rw [List.nil_append, fallibleCount, Nat.zero_add]
  | cons x xs ih =>
    cases x with
    | original s => exact ih
    | inlined a ss => rw [List.cons_append, fallibleCount, fallibleCount, ih, Nat.add_assoc]

/-- `out` after one production and one action definition (`mk c`) per choice `c ∈ cs` were
    appended, the productions being those of host `into` after the prefix `pre` -/
def emit (defs : List (Defn N T X)) (into : Production N T) (pre : List (InlinedSymbol N T))
    (mk : List (InlinedSymbol N T) → Defn N T X) (out : Out N T X)
    (cs : List (List (InlinedSymbol N T))) : Out N T X :=
  { prods := out.prods ++ numbered into pre (defs.length + out.defns.length) cs
    defns := out.defns ++ cs.map mk }

variable {defs : List (Defn N T X)} {into : Production N T} {pre : List (InlinedSymbol N T)}
  {mk : List (InlinedSymbol N T) → Defn N T X}

theorem emit_nil (out : Out N T X) : emit defs into pre mk out [] = out := by
  rw [emit, numbered, List.map_nil, List.append_nil, List.append_nil]

theorem emit_append (out : Out N T X) (xs ys : List (List (InlinedSymbol N T))) :
    emit defs into pre mk (emit defs into pre mk out xs) ys = emit defs into pre mk out (xs ++ ys) := by
  simp only [emit, numbered_append, List.map_append, List.length_append, List.length_map,
    List.append_assoc, Nat.add_assoc]

theorem emit_map_cons (out : Out N T X) (x : InlinedSymbol N T)
    (cs : List (List (InlinedSymbol N T))) :
    emit defs into pre mk out (cs.map (x :: ·)) = emit defs into (pre ++ [x]) (fun c => mk (x :: c)) out cs := by
  rw [emit, numbered_map_cons, List.map_map]
  rfl

/-- the loop over the productions of the inlined nonterminal, when every round appends a block -/
theorem forProds_emit (body : Production N T → Nat → Out N T X → Option (Out N T X))
    (cs : Production N T → List (List (InlinedSymbol N T))) (ips : List (Production N T))
    (hbody : ∀ ip ∈ ips, ∀ d, defs[ip.action]? = some d → ∀ out,
      body ip (if d.fallible then 1 else 0) out = some (emit defs into pre mk out (cs ip)))
    (hI : ∀ ip ∈ ips, ∃ d, defs[ip.action]? = some d) (out : Out N T X) :
    forProds defs body ips out = some (emit defs into pre mk out (ips.flatMap cs)) := by
  induction ips generalizing out with
  | nil => rw [forProds, List.flatMap_nil, emit_nil]
  | cons ip ips ih =>
    obtain ⟨d, hd⟩ := hI ip (List.mem_cons_self ..)
    simp only [forProds, hd, hbody ip (List.mem_cons_self ..) d hd]
    rw [ih (fun ip' h => hbody ip' (List.mem_cons_of_mem _ h))
      (fun ip' h => hI ip' (List.mem_cons_of_mem _ h)), emit_append, List.flatMap_cons]

/-- the main loop invariant: from state (`newSyms`, `fall`, `out`) the inliner appends one
    production and one action per choice, in order. -/
theorem inlineSyms_spec (defs : List (Defn N T X)) (inl : N) (inlProds : List (Production N T))
    (into : Production N T) (intoDef : Defn N T X)
    (hInto : defs[into.action]? = some intoDef)
    (hInl : ∀ ip ∈ inlProds, ∃ d, defs[ip.action]? = some d)
    (syms : List (Symbol N T)) (newSyms : List (InlinedSymbol N T)) (fall : Nat) (out : Out N T X) :
    inlineSyms defs inl inlProds into syms newSyms fall out =
      some (emit defs into newSyms
        (fun c => mkDefn intoDef into (fall + fallibleCount defs c) (newSyms ++ c)) out
        (choices inl inlProds syms)) := by
  induction syms generalizing newSyms fall out with
  | nil =>
    simp only [inlineSyms, hInto, choices, emit, numbered, fallibleCount, List.map_cons, List.map_nil,
      List.append_nil, Nat.add_zero]
    rfl
  | cons s rest ih =>
    by_cases hs : s = .nt inl
    · subst hs
      rw [inlineSyms, if_pos rfl, choices, if_pos rfl]
      refine forProds_emit _ _ inlProds (fun ip _ d hd out' => ?_) hInl out
      -- `f` is the fallibility bit of `ip`, which is what `fallibleCount` adds for its symbol
      simp only [ih, emit_map_cons, fallibleCount, isFallible, hd, Nat.add_assoc, List.append_assoc,
        List.cons_append, List.nil_append]
    · rw [inlineSyms, if_neg hs, choices, if_neg hs, ih, emit_map_cons]
      simp only [fallibleCount, List.append_assoc, List.cons_append, List.nil_append]

/-- the call made by `inline_nt`: no symbols pushed yet, nothing fallible yet -/
theorem inlineSyms_top (defs : List (Defn N T X)) (inl : N) (inlProds : List (Production N T))
    (into : Production N T) (intoDef : Defn N T X)
    (hInto : defs[into.action]? = some intoDef)
    (hInl : ∀ ip ∈ inlProds, ∃ d, defs[ip.action]? = some d) (out : Out N T X) :
    inlineSyms defs inl inlProds into into.symbols [] 0 out =
      some (emit defs into [] (fun c => mkDefn intoDef into (fallibleCount defs c) c) out
        (choices inl inlProds into.symbols)) := by
  have := inlineSyms_spec defs inl inlProds into intoDef hInto hInl into.symbols [] 0 out
  simpa only [Nat.zero_add, List.nil_append] using this

end LalrpopModel.Inline
