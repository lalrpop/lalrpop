import LalrpopModel.Lemmas.DfaStep
/-!
The kind of a DFA state. `all_accepts` is sorted by precedence, so the `Ambiguity` error arises exactly when two
accepting NFAs tie at the maximal precedence (`stateKind_error_iff`); the fact behind it, `tie_iff_head`, is about
any duplicate-free list in descending order.
-/
namespace LalrpopModel.Dfa
open LalrpopModel.Nfa

/-- every NFA has exactly one accepting state, state 0 (true of `from_re` NFAs) -/
def NfasOk (nfas : List Nfa) : Prop :=
  ∀ i, i < nfas.length → ∀ q, kindOf (nfaAt nfas i) q = .accept ↔ q = 0

/-- all items refer to existing NFAs -/
def ItemsValid (nfas : List Nfa) (items : List Item) : Prop := ∀ it, it ∈ items → it.1 < nfas.length

theorem accept_index_lt {nfas : List Nfa} {i q : Nat} (h : kindOf (nfaAt nfas i) q = .accept) :
    i < nfas.length := by
  false_or_by_contra
  rename_i hn
  have : nfas[i]? = none := List.getElem?_eq_none_iff.mpr (by omega)
  simp [nfaAt, this, kindOf] at h

/-- the `(precedence, nfa index)` list `all_accepts` -/
def allAccepts (nfas : List Nfa) (precs : List Nat) (items : List Item) : List (Nat × Nat) :=
  (items.filter (fun it => kindOf (nfaAt nfas it.1) it.2 == .accept)).map (fun it => (precs[it.1]?.getD 0, it.1))

theorem precLe_iff (a b : Nat × Nat) : precLe a b = true ↔ a.1 < b.1 ∨ (a.1 = b.1 ∧ a.2 ≤ b.2) := by
  simp only [precLe, Bool.or_eq_true, decide_eq_true_eq, Bool.and_eq_true, beq_iff_eq]

theorem precLe_fst {a b : Nat × Nat} (h : precLe a b = true) : a.1 ≤ b.1 := by
  rw [precLe_iff] at h
  omega

theorem precLe_false_fst {a b : Nat × Nat} (h : precLe a b = false) : b.1 ≤ a.1 := by
  rw [← Bool.not_eq_true, precLe_iff] at h
  omega

def precOf (precs : List Nat) (i : Nat) : Nat := precs[i]?.getD 0

theorem mem_allAccepts {nfas : List Nfa} {precs : List Nat} {items : List Item} (hok : NfasOk nfas)
    (hv : ItemsValid nfas items) (x : Nat × Nat) :
    x ∈ allAccepts nfas precs items ↔ ∃ i, (i, 0) ∈ items ∧ x = (precOf precs i, i) := by
  simp only [allAccepts, List.mem_map, List.mem_filter, beq_iff_eq]
  constructor
  · rintro ⟨⟨i, q⟩, ⟨hit, hk⟩, rfl⟩
    cases (hok i (accept_index_lt hk) q).mp hk
    exact ⟨i, hit, rfl⟩
  · rintro ⟨i, hi, rfl⟩
    exact ⟨(i, 0), ⟨hi, (hok i (hv _ hi) 0).mpr rfl⟩, rfl⟩

theorem allAccepts_nodup {nfas : List Nfa} {precs : List Nat} {items : List Item} (hok : NfasOk nfas)
    (hnd : items.Nodup) : (allAccepts nfas precs items).Nodup := by
  rw [List.nodup_iff_pairwise_ne] at hnd ⊢
  simp only [allAccepts]
  rw [List.pairwise_map]
  refine (hnd.filter _).imp_of_mem ?_
  intro a b ha hb hab heq
  simp only [List.mem_filter, beq_iff_eq] at ha hb
  have h1 := (hok a.1 (accept_index_lt ha.2) a.2).mp ha.2
  have h2 := (hok b.1 (accept_index_lt hb.2) b.2).mp hb.2
  simp only [Prod.mk.injEq] at heq
  apply hab
  exact Prod.ext heq.2 (h1.trans h2.symm)

/-- "the maximal-precedence accepting NFAs of this item set number at least two" -/
def TieIn (precs : List Nat) (items : List Item) : Prop :=
  ∃ i j, i ≠ j ∧ (i, 0) ∈ items ∧ (j, 0) ∈ items ∧ precOf precs i = precOf precs j ∧
    ∀ k, (k, 0) ∈ items → precOf precs k ≤ precOf precs i

theorem tie_iff_head {L : List (Nat × Nat)} (hs : L.Pairwise fun a b => b.1 ≤ a.1) (hnd : L.Nodup) :
    (∃ a b, a ∈ L ∧ b ∈ L ∧ a ≠ b ∧ a.1 = b.1 ∧ ∀ x, x ∈ L → x.1 ≤ a.1) ↔
      ∃ best next rest, L = best :: next :: rest ∧ best.1 = next.1 := by
  constructor
  · rintro ⟨a, b, ha, hb, hab, hp, hmax⟩
    match L, hs, hnd, ha, hb, hmax with
    | [x], _, _, ha, hb, _ =>
      exact absurd ((List.mem_singleton.mp ha).trans (List.mem_singleton.mp hb).symm) hab
    | best :: next :: rest, hs, _, ha, hb, hmax =>
      obtain ⟨hbest, hs⟩ := List.pairwise_cons.mp hs
      -- one of `a`, `b` is not `best`, hence at most `next`; both are as high as `best`
      have hy : ∃ y, y ∈ next :: rest ∧ y.1 = a.1 := by
        rcases List.mem_cons.mp ha with rfl | ha'
        · rcases List.mem_cons.mp hb with rfl | hb'
          · exact absurd rfl hab
          · exact ⟨b, hb', hp.symm⟩
        · exact ⟨a, ha', rfl⟩
      obtain ⟨y, hy, hya⟩ := hy
      have hyn : y.1 ≤ next.1 :=
        (List.mem_cons.mp hy).elim (fun h => h ▸ Nat.le_refl _) ((List.pairwise_cons.mp hs).1 y)
      exact ⟨best, next, rest, rfl, Nat.le_antisymm
        (Nat.le_trans (hmax best List.mem_cons_self) (hya ▸ hyn)) (hbest next List.mem_cons_self)⟩
  · rintro ⟨best, next, rest, rfl, heq⟩
    exact ⟨best, next, List.mem_cons_self, List.mem_cons_of_mem _ List.mem_cons_self,
      fun h => (List.nodup_cons.mp hnd).1 (h ▸ List.mem_cons_self), heq,
      fun x hx => (List.mem_cons.mp hx).elim (fun h => h ▸ Nat.le_refl _) ((List.pairwise_cons.mp hs).1 x)⟩

theorem tie_iff_accs {nfas : List Nfa} {precs : List Nat} {items : List Item} (hok : NfasOk nfas)
    (hv : ItemsValid nfas items) :
    TieIn precs items ↔ ∃ a b, a ∈ allAccepts nfas precs items ∧ b ∈ allAccepts nfas precs items ∧ a ≠ b ∧
      a.1 = b.1 ∧ ∀ x, x ∈ allAccepts nfas precs items → x.1 ≤ a.1 := by
  have mem := mem_allAccepts (precs := precs) hok hv
  constructor
  · rintro ⟨i, j, hij, hi, hj, hp, hmax⟩
    refine ⟨(precOf precs i, i), (precOf precs j, j), (mem _).mpr ⟨i, hi, rfl⟩, (mem _).mpr ⟨j, hj, rfl⟩,
      fun h => hij (Prod.mk.inj h).2, hp, fun x hx => ?_⟩
    obtain ⟨k, hk, rfl⟩ := (mem x).mp hx
    exact hmax k hk
  · rintro ⟨a, b, ha, hb, hab, hp, hmax⟩
    obtain ⟨i, hi, rfl⟩ := (mem a).mp ha
    obtain ⟨j, hj, rfl⟩ := (mem b).mp hb
    exact ⟨i, j, fun h => hab (h ▸ rfl), hi, hj, hp, fun k hk => hmax _ ((mem _).mpr ⟨k, hk, rfl⟩)⟩

theorem stateKind_eq (nfas : List Nfa) (precs : List Nat) (items : List Item) :
    stateKind nfas precs items =
      if (items.all (fun it => kindOf (nfaAt nfas it.1) it.2 == .reject) || items.isEmpty) = true then .ok .reject
      else match (isort precLe (allAccepts nfas precs items)).reverse with
        | [] => .ok .neither
        | [a] => .ok (.accepts a.2)
        | best :: next :: _ => if best.1 = next.1 then .error (best.2, next.2) else .ok (.accepts best.2) :=
  rfl

theorem stateKind_error_pair {nfas : List Nfa} {precs : List Nat} {items : List Item} {m0 m1 : Nat}
    (h : stateKind nfas precs items = .error (m0, m1)) :
    ∃ best next rest, (isort precLe (allAccepts nfas precs items)).reverse = best :: next :: rest ∧
      best.1 = next.1 ∧ m0 = best.2 ∧ m1 = next.2 := by
  rw [stateKind_eq] at h
  split at h
  · cases h
  · split at h
    · cases h
    · cases h
    · rename_i best next rest hrev
      split at h
      · rename_i heq
        simp only [Except.error.injEq, Prod.mk.injEq] at h
        exact ⟨best, next, rest, hrev, heq, h.1.symm, h.2.symm⟩
      · cases h

/-- **the equal-precedence accept check is exact**: `kind` computation fails with `Ambiguity`
iff the maximal-precedence accepting NFAs of the item set number at least two -/
theorem stateKind_error_iff {nfas : List Nfa} {precs : List Nat} {items : List Item} (hok : NfasOk nfas)
    (hv : ItemsValid nfas items)
    (hnd : items.Nodup) : (∃ m, stateKind nfas precs items = .error m) ↔ TieIn precs items := by
  have hmem : ∀ x, x ∈ (isort precLe (allAccepts nfas precs items)).reverse ↔ x ∈ allAccepts nfas precs items :=
    fun x => by rw [List.mem_reverse, mem_isort]
  have hs : (isort precLe (allAccepts nfas precs items)).reverse.Pairwise fun a b => b.1 ≤ a.1 :=
    List.pairwise_reverse.mpr (isort_pairwise (R := fun a b : Nat × Nat => a.1 ≤ b.1) (fun _ _ _ => Nat.le_trans)
      (fun _ _ => precLe_fst) (fun _ _ => precLe_false_fst) _)
  have hnd' : (isort precLe (allAccepts nfas precs items)).reverse.Nodup :=
    nodup_reverse ((isort_perm _ _).nodup_iff.mpr (allAccepts_nodup hok hnd))
  rw [tie_iff_accs hok hv]
  simp only [← hmem]
  rw [tie_iff_head hs hnd']
  constructor
  · rintro ⟨⟨m0, m1⟩, h⟩
    obtain ⟨best, next, rest, hrev, heq, _, _⟩ := stateKind_error_pair h
    exact ⟨best, next, rest, hrev, heq⟩
  · rintro ⟨best, next, rest, hrev, heq⟩
    rw [stateKind_eq, if_neg, hrev]
    · exact ⟨_, if_pos heq⟩
    · -- `best` comes from an accepting item, so the items are neither empty nor all rejecting
      obtain ⟨i, hb, _⟩ := (mem_allAccepts hok hv best).mp ((hmem best).mp (hrev ▸ List.mem_cons_self))
      simp only [Bool.or_eq_true, List.all_eq_true, beq_iff_eq, List.isEmpty_iff]
      rintro (h | h)
      · have := h _ hb
        rw [(hok i (hv _ hb) 0).mpr rfl] at this
        cases this
      · rw [h] at hb
        cases hb

end LalrpopModel.Dfa
