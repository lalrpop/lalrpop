import LalrpopModel.Model.Rw
import LalrpopModel.Lemmas.RustLex
/-! Lemmas about the `RustWrite` model: what each emission lexes to, independent of the flags. -/
namespace LalrpopModel.Rw
open LalrpopModel.RustLex

theorem digit_wordCh : ∀ k, k < 10 → isWordCh (Char.ofNat (48 + k)) = true := by decide

theorem natDigitsAux_spec (fuel n : Nat) (acc : List Char) :
    ∃ ds, natDigitsAux fuel n acc = ds ++ acc ∧ (∀ x ∈ ds, isWordCh x = true) ∧ (fuel ≠ 0 → ds ≠ []) := by
  induction fuel generalizing n acc with
  | zero => exact ⟨[], rfl, fun _ hx => absurd hx List.not_mem_nil, fun h => absurd rfl h⟩
  | succ fuel ih =>
    have hd : isWordCh (Char.ofNat (48 + n % 10)) = true := digit_wordCh _ (Nat.mod_lt _ (by decide))
    by_cases h : n / 10 = 0
    · have e : natDigitsAux (fuel + 1) n acc = [Char.ofNat (48 + n % 10)] ++ acc := if_pos h
      exact ⟨_, e, fun x hx => by rw [List.mem_singleton.mp hx]; exact hd, fun _ => List.cons_ne_nil _ _⟩
    · obtain ⟨ds, e, hw, _⟩ := ih (n / 10) (Char.ofNat (48 + n % 10) :: acc)
      have e' : natDigitsAux (fuel + 1) n acc = ds ++ [Char.ofNat (48 + n % 10)] ++ acc :=
        (if_neg h).trans (e.trans (List.append_assoc ds [_] acc).symm)
      refine ⟨_, e', fun x hx => ?_, fun _ => List.append_ne_nil_of_right_ne_nil _ (List.cons_ne_nil _ _)⟩
      rcases List.mem_append.mp hx with hx | hx
      · exact hw x hx
      · rw [List.mem_singleton.mp hx]; exact hd

theorem natDigits_spec (n : Nat) : natDigits n ≠ [] ∧ ∀ x ∈ natDigits n, isWordCh x = true := by
  obtain ⟨ds, e, hw, hne⟩ := natDigitsAux_spec (n + 1) n []
  rw [natDigits, e, List.append_nil]
  exact ⟨hne (Nat.succ_ne_zero n), hw⟩

/-- the tokens of an `i32` -/
def numToks (i : Int) : List RTok :=
  match i with
  | .ofNat n => [.word (natDigits n)]
  | .negSucc n => [.punct '-', .word (natDigits (n + 1))]

theorem neutral_num_comma (i : Int) : Neutral (i32Chars i ++ [',']) (numToks i ++ [.punct ',']) := by
  cases i with
  | ofNat n => exact neutral_word_comma _ (natDigits_spec n).1 (natDigits_spec n).2
  | negSucc n =>
    have hm : Neutral ['-'] [.punct '-'] := Runs.cons rfl (Runs.nil _)
    exact hm.append (neutral_word_comma _ (natDigits_spec (n + 1)).1 (natDigits_spec (n + 1)).2)

theorem neutral_indentation (f : Flags) (n : Nat) : Neutral (indentation f n) [] := by
  unfold indentation
  split
  · exact neutral_spaces n
  · exact Neutral.nil

/-- the flag-independent tokens of a table row -/
def rowToks : List (Int × List Char) → List RTok
  | [] => []
  | (i, _) :: es => numToks i ++ [.punct ','] ++ rowToks es

/-- the comments of a table row are line comments (` // on …`) -/
def rowCommentsOK (es : List (Int × List Char)) : Prop := ∀ e ∈ es, isCommentLine e.2

theorem neutral_rowCommented (f : Flags) (indent : Nat) (es : List (Int × List Char)) (h : rowCommentsOK es) :
    Neutral (rowCommented f indent es) (rowToks es) := by
  induction es with
  | nil => exact Neutral.nil
  | cons e es ih =>
    obtain ⟨i, c⟩ := e
    -- indentation, `i,`, blank, comment⏎, rest
    have hsp : Neutral [' '] [] := neutral_spaces 1
    have := ((((neutral_indentation f indent).append (neutral_num_comma i)).append hsp).append
      (neutral_commentLine c (h (i, c) List.mem_cons_self))).append (ih fun e he => h e (List.mem_cons_of_mem _ he))
    simpa only [rowCommented, rowToks, List.append_assoc, List.cons_append, List.nil_append] using this

theorem neutral_rowCompact (f : Flags) (first : Bool) (es : List (Int × List Char)) :
    Neutral (rowCompact f first es) (rowToks es) := by
  induction es generalizing first with
  | nil => exact Neutral.nil
  | cons e es ih =>
    obtain ⟨i, c⟩ := e
    have hsp : Neutral (if !first && f.whitespace then [' '] else []) [] := by
      split
      · exact neutral_spaces 1
      · exact Neutral.nil
    have := (hsp.append (neutral_num_comma i)).append (ih false)
    simpa only [rowCompact, rowToks, List.append_assoc, List.nil_append] using this

/-- **all three layouts of `write_table_row` lex alike** -/
theorem neutral_tableRow (f : Flags) (indent : Nat) (es : List (Int × List Char)) (h : rowCommentsOK es) :
    Neutral (writeTableRow f indent es) (rowToks es) := by
  unfold writeTableRow
  split
  · have := (neutral_rowCommented f indent es h).append neutral_newline
    simpa using this
  · have := ((neutral_indentation f indent).append (neutral_rowCompact f true es)).append neutral_newline
    simpa using this

/-- a line that leaves the lexer between tokens once its newline is read (no literal or block comment
    left open) -/
def Closed (s : List Char) : Prop := runMode .normal (s ++ ['\n']) = .normal

def lineToks (s : List Char) : List RTok := runOut .normal (s ++ ['\n'])

/-- `write_fmt` writes one indentation in front of the whole buffer, then the buffer as it is -/
theorem writeFmt_out {f : Flags} {indent : Nat} {s out : List Char} {indent' : Nat}
    (h : writeFmt f indent s = some (out, indent')) : ∃ n, out = indentation f n ++ (s ++ ['\n']) := by
  cases s with
  | nil =>
    simp only [writeFmt, Option.some.injEq, Prod.mk.injEq] at h
    exact ⟨0, by simp [indentation, ← h.1]⟩
  | cons c cs =>
    simp only [writeFmt] at h
    split at h
    · cases h
    · rename_i n _
      simp only [Option.some.injEq, Prod.mk.injEq] at h
      exact ⟨n, by rw [← h.1, List.append_assoc]⟩

theorem neutral_writeFmt {f : Flags} {indent : Nat} {s out : List Char} {indent' : Nat} {toks : List RTok}
    (hl : Neutral (s ++ ['\n']) toks) (h : writeFmt f indent s = some (out, indent')) : Neutral out toks := by
  obtain ⟨n, rfl⟩ := writeFmt_out h
  exact (neutral_indentation f n).append hl

def evOK : Ev → Prop
  | .line s => Closed s
  | .cline s => isCommentLine s
  | .row es => rowCommentsOK es

/-- the flag-independent tokens of one event: a guarded comment line contributes none -/
def evToks : Ev → List RTok
  | .line s => lineToks s
  | .cline _ => []
  | .row es => rowToks es

theorem neutral_renderEv (f : Flags) (indent : Nat) (ev : Ev) (out : List Char) (indent' : Nat) (hev : evOK ev)
    (h : renderEv f indent ev = some (out, indent')) : Neutral out (evToks ev) := by
  cases ev with
  | line s => exact neutral_writeFmt ⟨hev, rfl⟩ h
  | cline s =>
    simp only [renderEv] at h
    split at h
    · exact neutral_writeFmt (neutral_commentLine s hev) h
    · simp only [Option.some.injEq, Prod.mk.injEq] at h
      exact h.1 ▸ Neutral.nil
  | row es =>
    simp only [renderEv, Option.some.injEq, Prod.mk.injEq] at h
    exact h.1 ▸ neutral_tableRow f indent es hev

/-- the flag-independent token stream of an event sequence -/
def specToks : List Ev → List RTok
  | [] => []
  | ev :: evs => evToks ev ++ specToks evs

theorem neutral_render (f : Flags) (evs : List Ev) (indent : Nat) (out : List Char) (hok : ∀ e ∈ evs, evOK e)
    (h : render f indent evs = some out) : Neutral out (specToks evs) := by
  induction evs generalizing indent out with
  | nil =>
    obtain rfl : [] = out := Option.some.inj h
    exact Neutral.nil
  | cons ev evs ih =>
    simp only [render] at h
    split at h
    · cases h
    · rename_i o1 indent1 hre
      split at h
      · cases h
      · rename_i more hmore
        obtain rfl : o1 ++ more = out := Option.some.inj h
        exact (neutral_renderEv f indent ev o1 indent1 (hok ev List.mem_cons_self) hre).append
          (ih indent1 more (fun e he => hok e (List.mem_cons_of_mem _ he)) hmore)

end LalrpopModel.Rw
