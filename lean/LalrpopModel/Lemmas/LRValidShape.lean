import LalrpopModel.Model.LR.Validate
/-!
Clauses V0 (`checkShape`) and V0' (`checkStart`) of the validator as propositions (`Shape G T A`):
the part of `validateSound` and of `validateComplete` that both the soundness and the completeness
proof read.
-/
namespace LalrpopModel.LR

theorem getElem?_lt {α} {l : List α} {i : Nat} {a : α} (h : l[i]? = some a) : i < l.length :=
  (List.getElem?_eq_some_iff.mp h).1

theorem getElem?_of_getD {α} {l : List α} {i : Nat} {d a : α} (hlt : i < l.length)
    (h : l.getD i d = a) : l[i]? = some a := by
  rw [List.getD_eq_getElem?_getD, List.getElem?_eq_getElem hlt] at h
  rw [List.getElem?_eq_getElem hlt, ← h]
  rfl

theorem getElem?_some_of_lt {α} {l : List α} {i n : Nat} (hl : l.length = n) (hi : i < n) :
    ∃ a, l[i]? = some a :=
  ⟨_, List.getElem?_eq_getElem (hl ▸ hi)⟩

theorem subsetOf_mem {α : Type} [BEq α] [LawfulBEq α] {xs ys : List α} (h : subsetOf xs ys = true)
    {x : α} (hx : x ∈ xs) : x ∈ ys :=
  List.contains_iff_mem.mp (List.all_eq_true.mp h x hx)

theorem lookupAssoc_mem {α : Type} {l : List (Nat × α)} {k : Nat} {v : α}
    (h : lookupAssoc l k = some v) : (k, v) ∈ l := by
  obtain ⟨⟨a1, a2⟩, ha, hv⟩ := Option.map_eq_some_iff.mp h
  have h1 := List.find?_some ha
  have h1 : a1 = k := beq_iff_eq.mp h1
  cases hv
  exact h1 ▸ List.mem_of_find?_eq_some ha

theorem startSym_eq {G : Grammar} {sp : Production} {S0 : NT} (h : G.prods[G.startProd]? = some sp)
    (hr : sp.rhs = [Sym.n S0]) : G.startSym = some S0 := by
  cases sp with
  | mk l r =>
    simp only at hr
    subst hr
    simp [Grammar.startSym, h]

theorem startSym_spec {G : Grammar} {S : NT} (hS : G.startSym = some S) :
    ∃ sp, G.prods[G.startProd]? = some sp ∧ sp.rhs = [Sym.n S] := by
  unfold Grammar.startSym at hS
  split at hS
  · rename_i lhs S' hsp
    cases hS
    exact ⟨_, hsp, rfl⟩
  · cases hS

/-- what `checkShape` and `checkStart` say, as far as the proofs use it: sizes, the production
    tables agree with the grammar (no lhs is required of the start production, which
    `__simulate_reduce` answers with `Accept`), the start production is `S' → S` and `S'` occurs in
    no right-hand side -/
structure Shape (G : Grammar) (T : Tables) (A : Automaton) : Prop where
  nTerm_eq : T.nTerm = G.nTerm
  nS_pos : 0 < A.states.length
  eof_len : T.eofAction.length = A.states.length
  prodLen_eq : T.prodLen = G.prods.map (·.rhs.length)
  prodLhs_len : T.prodLhs.length = G.prods.length
  isStart_len : T.isStart.length = G.prods.length
  fallible_len : T.fallible.length = G.prods.length
  rec_nTerm : T.usesRecovery = true → 0 < T.nTerm
  isStart_eq : ∀ p pr, G.prods[p]? = some pr → T.isStart[p]? = some (p == G.startProd)
  prodLhs_eq : ∀ p pr, G.prods[p]? = some pr → p ≠ G.startProd → T.prodLhs[p]? = some pr.lhs
  start : ∃ sp S, G.prods[G.startProd]? = some sp ∧ sp.rhs = [Sym.n S]
  start_fresh : ∀ sp, G.prods[G.startProd]? = some sp → ∀ pr ∈ G.prods, Sym.n sp.lhs ∉ pr.rhs

section
variable {G : Grammar} {T : Tables} {A : Automaton}

theorem prodLen_get_of (h : T.prodLen = G.prods.map (·.rhs.length)) {p : Nat} {pr : Production}
    (hp : G.prods[p]? = some pr) : T.prodLen[p]? = some pr.rhs.length := by
  rw [h, List.getElem?_map, hp]; rfl

theorem checkStart_spec (h : checkStart G T = true) :
    ∃ sp S, G.prods[G.startProd]? = some sp ∧ sp.rhs = [Sym.n S] ∧
      (∀ pr ∈ G.prods, Sym.n sp.lhs ∉ pr.rhs) ∧
      ∀ p pr, G.prods[p]? = some pr → T.isStart.getD p false = (p == G.startProd) := by
  unfold checkStart at h
  split at h
  · rename_i sp hsp
    simp only [Bool.and_eq_true] at h
    obtain ⟨⟨h1, h2⟩, h3⟩ := h
    split at h1
    · rename_i S hS
      refine ⟨sp, S, hsp, hS, ?_, ?_⟩
      · intro pr hpr hm
        have := List.all_eq_true.mp h2 pr hpr
        rw [List.contains_iff_mem.mpr hm] at this
        cases this
      · intro p pr hp
        have := List.all_eq_true.mp h3 p (List.mem_range.mpr (getElem?_lt hp))
        rw [hp, Bool.and_eq_true] at this
        exact beq_iff_eq.mp this.1
    · cases h1
  · cases h

theorem shape_of_checks (hs : checkShape G T A = true) (hst : checkStart G T = true) :
    Shape G T A := by
  simp only [checkShape, Bool.and_eq_true] at hs
  -- the conjuncts of `checkShape` in its order; the fields below fix the type of each one that is used
  obtain ⟨⟨⟨⟨⟨⟨⟨⟨⟨⟨⟨⟨⟨⟨
    hn,        -- `T.nTerm == G.nTerm`
    heof⟩,     -- `T.eofAction.length == nS`
    _⟩,        -- length of `T.action`
    _⟩,        -- length of `T.goto`
    _⟩,        -- rows of `T.goto`
    hpl⟩,      -- `T.prodLen == ..`
    hlhsl⟩,    -- `T.prodLhs.length == ..`
    hlhs⟩,     -- `isStart` or the lhs of `T.prodLhs`, for every production
    hisl⟩,     -- `T.isStart.length == ..`
    hfl⟩,      -- `T.fallible.length == ..`
    hpos⟩,     -- `0 < nS`
    hrec⟩,     -- `!T.usesRecovery || 0 < G.nTerm`
    _⟩,        -- entries of `T.action`
    _⟩,        -- entries of `T.eofAction`
    _⟩ := hs   -- symbols of `G.prods`
  have hn : T.nTerm = G.nTerm := beq_iff_eq.mp hn
  have hisl : T.isStart.length = G.prods.length := beq_iff_eq.mp hisl
  obtain ⟨sp, S, hsp, hS, hfresh, hflag⟩ := checkStart_spec hst
  have his : ∀ p pr, G.prods[p]? = some pr → T.isStart[p]? = some (p == G.startProd) :=
    fun p pr hp => getElem?_of_getD (hisl ▸ getElem?_lt hp) (hflag p pr hp)
  exact {
    nTerm_eq := hn
    nS_pos := of_decide_eq_true hpos
    eof_len := beq_iff_eq.mp heof
    prodLen_eq := beq_iff_eq.mp hpl
    prodLhs_len := beq_iff_eq.mp hlhsl
    isStart_len := hisl
    fallible_len := beq_iff_eq.mp hfl
    rec_nTerm := fun hu => by
      rw [hu] at hrec
      exact hn ▸ of_decide_eq_true hrec
    isStart_eq := his
    prodLhs_eq := by
      intro p pr hp hne
      have := List.all_eq_true.mp hlhs p (List.mem_range.mpr (getElem?_lt hp))
      rw [hflag p pr hp, beq_false_of_ne hne, Bool.false_or, hp] at this
      exact beq_iff_eq.mp this
    start := ⟨sp, S, hsp, hS⟩
    start_fresh := fun sp' hsp' => by
      rw [hsp] at hsp'
      cases hsp'
      exact hfresh }

end

end LalrpopModel.LR
