import LalrpopModel.Lemmas.InlineLang
import LalrpopModel.Lemmas.InlineOrder
/-!
From one inlining step to the whole pass: instances of the substitution lemma for the real
meaning of the action functions and for plain derivations, preservation of well-formedness, and
the induction over the inline order.
-/
set_option linter.unusedSectionVars false

namespace LalrpopModel.Inline

variable {N T X : Type} [DecidableEq N] [DecidableEq T] {E V : Type}

theorem wf_action_lt {g : Grammar N T X} (hwf : WF g) {n : N} {p : Production N T}
    (hp : p ∈ g.productionsFor n) : p.action < g.actions.length := by
  obtain ⟨d, hd, _, hpd⟩ := productionsFor_mem hp
  exact hwf.actions_in_range d hd p hpd

theorem inlineNt_spec_of_eq {g g' : Grammar N T X} (hwf : WF g) {inl : N}
    (h : inlineNt g inl = some g') :
    ∃ extra, g'.actions = g.actions ++ extra ∧
      Rel2 (NtRel inl (g.productionsFor inl) g.actions.length g'.actions)
        g.nonterminals g'.nonterminals := by
  obtain ⟨g'', extra, h1, r⟩ := inlineNt_spec g hwf inl
  cases h.symm.trans h1
  exact ⟨extra, r⟩

/-- the composed action: temporaries (inlined actions on their slices, left to right, first
    failure wins), then the host action -/
theorem semOf_new_action {g g' : Grammar N T X} (hwf : WF g) {inl : N} {extra : List (Defn N T X)}
    (hacts : g'.actions = g.actions ++ extra) (I : Sem E V)
    {n : N} {p : Production N T} (hp : p ∈ g.productionsFor n)
    {c : List (InlinedSymbol N T)} (hc : c ∈ choices inl (g.productionsFor inl) p.symbols)
    {idx : Nat} (hidx : g.actions.length ≤ idx) (hdef : IsInlineOf g'.actions idx p.action c)
    (args : List V) :
    semOf g'.actions I idx args =
      (composeArgs (semOf g.actions I) c args).bind (semOf g.actions I p.action) := by
  obtain ⟨d, hd, hk⟩ := hdef
  rw [semOf_inline g'.actions I idx d p.action c hd hk, runInline_eq_compose]
  -- the components are old actions: below `idx` they mean what they meant in `g`
  have hold : ∀ j, j < g.actions.length → semUpTo g'.actions I idx j = semOf g.actions I j := by
    intro j hj
    rw [hacts, semUpTo_append_old _ _ I hj (Nat.lt_of_lt_of_le hj hidx)]
  rw [hold p.action (wf_action_lt hwf hp),
    composeArgs_congr_choices hc fun ip hip => hold ip.action (wf_action_lt hwf hip)]

/-- **one step**: values (for every meaning of the user actions) and language -/
theorem inlineNt_step {g g' : Grammar N T X} (hwf : WF g) {inl : N}
    (hself : ∀ ip ∈ g.productionsFor inl, Symbol.nt inl ∉ ip.symbols)
    (h : inlineNt g inl = some g') :
    (∀ (E V : Type) (I : Sem E V) (tv : T → V) ss w vs,
      Eval g (semOf g.actions I) tv ss w vs ↔ Eval g' (semOf g'.actions I) tv ss w vs) ∧
    (∀ ss w, Derives g ss w ↔ Derives g' ss w) := by
  obtain ⟨extra, hacts, hrel⟩ := inlineNt_spec_of_eq hwf h
  have hrel' := rel2_productionsFor hrel
  constructor
  · intro E V I tv ss w vs
    exact step_eval hrel' hself
      (fun n p hp => by rw [hacts, semOf_append_old _ _ _ _ (wf_action_lt hwf hp)])
      (fun n p hp c hc idx args hidx hdef _ =>
        semOf_new_action hwf hacts I hp hc hidx hdef args)
  · intro ss w
    rw [derives_iff_eval, derives_iff_eval]
    -- with the trivial meaning every composed action succeeds on arguments of the right length
    exact exists_congr fun vs => step_eval (sem := okSem) hrel' hself (fun _ _ _ => rfl)
      (fun n p _ c _ idx args _ _ hlen => by
        obtain ⟨r, hr⟩ := composeArgs_okSem c args hlen
        rw [hr]
        rfl)

theorem rel2_names {inl : N} {inlProds : List (Production N T)} {n0 : Nat} {acts : List (Defn N T X)}
    {ds ds' : List (NtData N T X)} (h : Rel2 (NtRel inl inlProds n0 acts) ds ds') :
    ds'.map (·.name) = ds.map (·.name) := by
  induction h with
  | nil => rfl
  | cons hr _ ih => rw [List.map_cons, List.map_cons, hr.1, ih]

theorem rel2_mem {α β : Type} {R : α → β → Prop} {as : List α} {bs : List β} (h : Rel2 R as bs)
    {b : β} (hb : b ∈ bs) : ∃ a ∈ as, R a b := by
  induction h with
  | nil => cases hb
  | cons hr _ ih =>
    rcases List.mem_cons.mp hb with rfl | hb
    · exact ⟨_, List.mem_cons_self .., hr⟩
    · obtain ⟨a, ha, hr'⟩ := ih hb
      exact ⟨a, List.mem_cons_of_mem _ ha, hr'⟩

theorem inlineNt_wf {g g' : Grammar N T X} (hwf : WF g) {inl : N}
    (h : inlineNt g inl = some g') : WF g' := by
  obtain ⟨extra, hacts, hrel⟩ := inlineNt_spec_of_eq hwf h
  refine ⟨fun d' hd' p' hp' => ?_, by rw [rel2_names hrel]; exact hwf.names_nodup⟩
  obtain ⟨d, hd, _, _, _, hstep⟩ := rel2_mem hrel hd'
  rcases hstep.back p' hp' with ⟨hp, _⟩ | ⟨p, _, _, c, _, _, _, _, hdef⟩
  · rw [hacts, List.length_append]
    exact Nat.lt_add_right _ (hwf.actions_in_range d hd p' hp)
  · exact hdef.lt

theorem choices_symbols {inl : N} {inlProds : List (Production N T)} {syms : List (Symbol N T)}
    {c : List (InlinedSymbol N T)} (hc : c ∈ choices inl inlProds syms) {s : Symbol N T}
    (hs : s ∈ c.flatMap InlinedSymbol.flat) :
    (s ∈ syms ∧ s ≠ .nt inl) ∨ ∃ ip ∈ inlProds, s ∈ ip.symbols := by
  obtain ⟨x, hx, hsx⟩ := List.mem_flatMap.mp hs
  rcases choices_elem hc hx with ⟨s', h1, h2, rfl⟩ | ⟨ip, hip, rfl⟩
  · cases List.mem_singleton.mp hsx
    exact .inl ⟨h1, h2⟩
  · exact .inr ⟨ip, hip, hsx⟩

/-- "`x`'s productions mention the inline nonterminal `m`" stays within the reachability relation
    of the original inline graph -/
def MentionsWithin (names : List N) (adj : N → List N) (g : Grammar N T X) : Prop :=
  ∀ x ∈ names, ∀ p ∈ g.productionsFor x, ∀ m ∈ names, Symbol.nt m ∈ p.symbols → ReachP adj x m

theorem inlineNt_mentions {names : List N} {adj : N → List N} {g g' : Grammar N T X} (hwf : WF g)
    {inl : N} (hinl : inl ∈ names) (hm : MentionsWithin names adj g)
    (h : inlineNt g inl = some g') : MentionsWithin names adj g' := by
  obtain ⟨_, _, hrel⟩ := inlineNt_spec_of_eq hwf h
  intro x hx p' hp' m hmn hmem
  rcases (rel2_productionsFor hrel x).back p' hp' with ⟨hp, _⟩ | ⟨p, hp, hin, c, hc, _, hsyms, _⟩
  · exact hm x hx p' hp m hmn hmem
  · rw [hsyms] at hmem
    rcases choices_symbols hc hmem with ⟨h1, _⟩ | ⟨ip, hip, h2⟩
    · exact hm x hx p hp m hmn h1
    · exact (hm x hx p hp inl hinl hin).trans (hm inl hinl ip hip m hmn h2)

/-- **the whole pass, given an admissible order**: every nonterminal of `order` is an inline
    node that does not reach itself in the graph `adj` bounding the "mentions" relation. -/
theorem inlineAll_spec {names : List N} {adj : N → List N} (order : List N) (g : Grammar N T X)
    (hwf : WF g) (hm : MentionsWithin names adj g)
    (hord : ∀ x ∈ order, x ∈ names ∧ ¬ ReachP adj x x) :
    ∃ g', inlineAll g order = some g' ∧ WF g' ∧
      (∀ (E V : Type) (I : Sem E V) (tv : T → V) ss w vs,
        Eval g (semOf g.actions I) tv ss w vs ↔ Eval g' (semOf g'.actions I) tv ss w vs) ∧
      (∀ ss w, Derives g ss w ↔ Derives g' ss w) := by
  induction order generalizing g with
  | nil => exact ⟨g, rfl, hwf, fun _ _ _ _ _ _ _ => Iff.rfl, fun _ _ => Iff.rfl⟩
  | cons x rest ih =>
    obtain ⟨hx, hxx⟩ := hord x (List.mem_cons_self ..)
    have hself : ∀ ip ∈ g.productionsFor x, Symbol.nt x ∉ ip.symbols :=
      fun ip hip hin => hxx (hm x hx ip hip x hx hin)
    obtain ⟨g1, extra, h1, _, _⟩ := inlineNt_spec g hwf x
    have hwf1 := inlineNt_wf hwf h1
    have hm1 := inlineNt_mentions hwf hx hm h1
    obtain ⟨g', h2, hwf', hev, hder⟩ := ih g1 hwf1 hm1 (fun y hy => hord y (List.mem_cons_of_mem _ hy))
    have hstep := inlineNt_step hwf hself h1
    exact ⟨g', by rw [inlineAll, h1]; exact h2, hwf',
      fun E V I tv ss w vs => (hstep.1 E V I tv ss w vs).trans (hev E V I tv ss w vs),
      fun ss w => (hstep.2 ss w).trans (hder ss w)⟩

theorem mem_edgeTargets {nodes : List N} {p : Production N T} {y : N} :
    y ∈ edgeTargets nodes p ↔ y ∈ nodes ∧ Symbol.nt y ∈ p.symbols := by
  rw [edgeTargets, List.mem_filterMap]
  constructor
  · rintro ⟨s, hs, h⟩
    cases s with
    | term t => cases h
    | nt n =>
      by_cases hn : n ∈ nodes
      · cases (if_pos hn).symm.trans h
        exact ⟨hn, hs⟩
      · cases (if_neg hn).symm.trans h
  · rintro ⟨hy, hs⟩
    exact ⟨.nt y, hs, if_pos hy⟩

theorem mem_neighbors {g : Grammar N T X} {nodes : List N} {x y : N} :
    y ∈ neighbors g nodes x ↔ x ∈ nodes ∧ y ∈ nodes ∧
      ∃ p ∈ g.allProductions, p.nonterminal = x ∧ Symbol.nt y ∈ p.symbols := by
  unfold neighbors
  split
  · rename_i hx
    simp only [List.mem_reverse, List.mem_flatMap, List.mem_filter, decide_eq_true_eq,
      mem_edgeTargets]
    constructor
    · rintro ⟨p, ⟨hp, hpx⟩, hy, hs⟩
      exact ⟨hx, hy, p, hp, hpx, hs⟩
    · rintro ⟨_, hy, p, hp, hpx, hs⟩
      exact ⟨p, ⟨hp, hpx⟩, hy, hs⟩
  · rename_i hx
    exact ⟨nofun, fun h => absurd h.1 hx⟩

/-- productions are filed under their own nonterminal -/
def Filed (g : Grammar N T X) : Prop :=
  ∀ d ∈ g.nonterminals, ∀ p ∈ d.productions, p.nonterminal = d.name

/-- in a filed grammar the "mentions" relation is the edge relation of the inline graph -/
theorem mentions_initial (g : Grammar N T X) (hf : Filed g) :
    MentionsWithin g.inlineNames (neighbors g g.inlineNames) g := by
  intro x hx p hp m hmn hmem
  obtain ⟨d, hd, hname, hpd⟩ := productionsFor_mem hp
  refine .edge (mem_neighbors.mpr ⟨hx, hmn, p, List.mem_flatMap.mpr ⟨d, hd, hpd⟩, ?_, hmem⟩)
  rw [hf d hd p hpd, hname]

end LalrpopModel.Inline
