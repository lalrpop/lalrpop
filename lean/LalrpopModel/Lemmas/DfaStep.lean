import LalrpopModel.Lemmas.DfaClosure
import LalrpopModel.Lemmas.OverlapAdd
/-!
One step of the subset construction. The start set is `Rs … []`, and when the test ranges refine the labels of `I`
(`TestsOk`, what `remove_overlap` delivers) the successor set computed per test range, or by `Other`, is the
one-symbol step.
-/
namespace LalrpopModel.Dfa
open LalrpopModel.Nfa

theorem find?_congr {α : Type} {p q : α → Bool} : ∀ {l : List α}, (∀ a, a ∈ l → p a = q a) →
    l.find? p = l.find? q
  | [], _ => rfl
  | a :: l, h => by
    simp only [List.find?_cons, h a List.mem_cons_self]
    rw [find?_congr (fun b hb => h b (List.mem_cons_of_mem _ hb))]

theorem filterMap_congr {α β : Type} {f g : α → Option β} : ∀ {l : List α}, (∀ a, a ∈ l → f a = g a) →
    l.filterMap f = l.filterMap g
  | [], _ => rfl
  | a :: l, h => by
    simp only [List.filterMap_cons, h a List.mem_cons_self]
    rw [filterMap_congr (fun b hb => h b (List.mem_cons_of_mem _ hb))]

/-- the item set `I` is exactly the set of NFA states reachable by reading `w` -/
def Rs (nfas : List Nfa) (I : List Item) (w : List Nat) : Prop :=
  ∀ it : Item, it ∈ I ↔ (it.1 < nfas.length ∧ Path (nfaAt nfas it.1) START w it.2)

/-- successors of an item set on one symbol (before closure) -/
def charStep (nfas : List Nfa) (I : List Item) (c : Nat) : List Item :=
  I.filterMap (fun it => (stepChar (nfaAt nfas it.1) it.2 c).map (fun u => (it.1, u)))

def labelsOf (nfas : List Nfa) (I : List Item) : List Range :=
  I.flatMap (fun it => (testOf (nfaAt nfas it.1) it.2).map (fun e => (e.1, e.2.1)))

theorem rs_start (nfas : List Nfa) (fuel : Nat) (s0 : List Item)
    (h : closure nfas fuel ((List.range nfas.length).map (fun i => (i, START))) = some s0) :
    Rs nfas s0 [] := by
  intro it
  rw [closure_spec nfas fuel _ s0 h it]
  constructor
  · rintro ⟨y, hy, heq, hp⟩
    obtain ⟨i, hi, rfl⟩ := List.mem_map.mp hy
    simp only at heq hp
    exact ⟨by rw [← heq]; exact List.mem_range.mp hi, by rw [← heq]; exact hp⟩
  · rintro ⟨hlt, hp⟩
    exact ⟨(it.1, START), List.mem_map.mpr ⟨it.1, List.mem_range.mpr hlt, rfl⟩, rfl, hp⟩

theorem rs_step (nfas : List Nfa) (fuel : Nat) (I I' : List Item) (w : List Nat) (c : Nat)
    (hI : Rs nfas I w) (h : closure nfas fuel (charStep nfas I c) = some I') : Rs nfas I' (w ++ [c]) := by
  intro it
  rw [closure_spec nfas fuel _ I' h it]
  constructor
  · rintro ⟨y, hy, heq, hp⟩
    obtain ⟨x, hx, hxy⟩ := List.mem_filterMap.mp hy
    obtain ⟨hlt, hpx⟩ := (hI x).mp hx
    obtain ⟨u, hs, rfl⟩ := Option.map_eq_some_iff.mp hxy
    rw [← show x.1 = it.1 from heq]
    exact ⟨hlt, by simpa using (hpx.snoc_chr hs).append hp⟩
  · rintro ⟨hlt, hp⟩
    obtain ⟨q, u, h1, h2, h3⟩ := hp.snoc_inv
    have hq : (it.1, q) ∈ I := (hI (it.1, q)).mpr ⟨hlt, h1⟩
    refine ⟨(it.1, u), List.mem_filterMap.mpr ⟨(it.1, q), hq, by simp [h2]⟩, rfl, h3⟩

/-- what `remove_overlap` must deliver for the subset construction to be exact -/
structure TestsOk (labels tests : List Range) : Prop where
  nonempty : ∀ t, t ∈ tests → isEmpty t = false
  cover : ∀ c, (∃ t, t ∈ tests ∧ mem c t) ↔ (∃ r, r ∈ labels ∧ mem c r)
  fine : ∀ t, t ∈ tests → ∀ r, r ∈ labels → Sub t r ∨ Disj t r

theorem label_mem {nfas : List Nfa} {I : List Item} {it : Item} (hit : it ∈ I) {e : Nat × Nat × Nat}
    (he : e ∈ testOf (nfaAt nfas it.1) it.2) : (e.1, e.2.1) ∈ labelsOf nfas I :=
  List.mem_flatMap.mpr ⟨it, hit, List.mem_map.mpr ⟨e, he, rfl⟩⟩

/-- on a symbol inside a test range, `accept_test` is the one-symbol step: the test range lies
inside or apart from every edge label, so an edge label meets it iff it contains the symbol -/
theorem acceptTest_eq_step {nfas : List Nfa} {I : List Item} {tests : List Range}
    (hok : TestsOk (labelsOf nfas I) tests) {t : Range} (ht : t ∈ tests) {c : Nat} (hc : mem c t) :
    I.filterMap (fun it => acceptTest nfas it t) = charStep nfas I c := by
  refine filterMap_congr fun it hit => ?_
  have hcongr : (testOf (nfaAt nfas it.1) it.2).find? (fun e => intersects (e.1, e.2.1) t) =
      (testOf (nfaAt nfas it.1) it.2).find? (fun e => e.1 ≤ c && c ≤ e.2.1) := by
    refine find?_congr fun e he => ?_
    rw [Bool.eq_iff_iff, intersects_iff, Bool.and_eq_true, decide_eq_true_eq, decide_eq_true_eq]
    rcases hok.fine t ht _ (label_mem hit he) with hs | hd
    · exact ⟨fun _ => hs c hc, fun h => ⟨c, h, hc⟩⟩
    · exact ⟨fun ⟨x, h1, h2⟩ => absurd ⟨h2, h1⟩ (hd x), fun h => absurd ⟨hc, h⟩ (hd c)⟩
  simp only [acceptTest, stepChar, hcongr]
  cases (testOf (nfaAt nfas it.1) it.2).find? (fun e => e.1 ≤ c && c ≤ e.2.1) with
  | none => rfl
  | some e => rfl

theorem acceptOther_eq_step {nfas : List Nfa} {I : List Item} {tests : List Range}
    (hok : TestsOk (labelsOf nfas I) tests) {c : Nat} (hc : ∀ t, t ∈ tests → ¬ mem c t) :
    I.filterMap (acceptOther nfas) = charStep nfas I c := by
  refine filterMap_congr fun it hit => ?_
  have hnone : (testOf (nfaAt nfas it.1) it.2).find? (fun e => e.1 ≤ c && c ≤ e.2.1) = none := by
    refine List.find?_eq_none.mpr fun e he hp => ?_
    rw [Bool.and_eq_true, decide_eq_true_eq, decide_eq_true_eq] at hp
    obtain ⟨t, ht, hm⟩ := (hok.cover c).mpr ⟨_, label_mem hit he, hp⟩
    exact hc t ht hm
  simp only [acceptOther, stepChar, hnone]

/-- some symbol lies outside all the (finitely many, bounded) test ranges -/
theorem exists_outside (tests : List Range) : ∃ c, ∀ t, t ∈ tests → ¬ mem c t := by
  have hB : ∃ B, ∀ t : Range, t ∈ tests → t.2 < B := by
    induction tests with
    | nil => exact ⟨0, fun t ht => nomatch ht⟩
    | cons r rs ih =>
      obtain ⟨B, hB⟩ := ih
      refine ⟨max B (r.2 + 1), fun t ht => ?_⟩
      rcases List.mem_cons.mp ht with rfl | ht
      · exact Nat.lt_of_lt_of_le (Nat.lt_succ_self _) (Nat.le_max_right _ _)
      · exact Nat.lt_of_lt_of_le (hB t ht) (Nat.le_max_left _ _)
  obtain ⟨B, hB⟩ := hB
  exact ⟨B, fun t ht hm => Nat.lt_irrefl _ (Nat.lt_of_le_of_lt hm.2 (hB t ht))⟩

end LalrpopModel.Dfa
