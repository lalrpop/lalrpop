import LalrpopModel.Lemmas.OverlapBasic
import LalrpopModel.Lemmas.Except
import LalrpopModel.Lemmas.Sort
/-!
`add_range` as a step on a list of pairwise disjoint ranges: `AddRangePost range start v v'` says what one call
turns `v` into. The recursion cuts `range` against the first overlapping entry and adds the outer pieces behind the
index it found, where `AddRangePre` says nothing overlaps them. `remove_overlap` folds this over the input
(`AllInv`).
-/
namespace LalrpopModel.Dfa

/-- ranges at different positions are disjoint -/
def PairwiseDisj (v : List Range) : Prop :=
  ∀ (i j : Nat) (a b : Range), i < j → v[i]? = some a → v[j]? = some b → Disj a b
/-- `c` is covered by some range of `v` -/
def Covers (v : List Range) (c : Nat) : Prop := ∃ r, r ∈ v ∧ mem c r
/-- every range of `v` lies inside `X` or is disjoint from it -/
def Fine (v : List Range) (X : Range) : Prop := ∀ t, t ∈ v → Sub t X ∨ Disj t X
/-- the new range avoids everything before `start` -/
def AddRangePre (range : Range) (start : Nat) (v : List Range) : Prop :=
  ∀ (i : Nat) (a : Range), i < start → v[i]? = some a → Disj range a

/-- what `add_range(range, start)` turns `v` into: still pairwise disjoint, covering `range` in
addition, every new piece a part of an old one or a part of `range` outside everything old -/
structure AddRangePost (range : Range) (start : Nat) (v v' : List Range) : Prop where
  pd : PairwiseDisj v'
  cov : ∀ c, Covers v' c ↔ (Covers v c ∨ mem c range)
  orig : ∀ t', t' ∈ v' → (∃ t, t ∈ v ∧ Sub t' t) ∨ (Sub t' range ∧ ∀ c, mem c t' → ¬ Covers v c)
  fine : Fine v' range
  pre : ∀ (i : Nat), i < start → v'[i]? = v[i]?
  len : v.length ≤ v'.length

theorem Sub.fine {t' t X : Range} (hs : Sub t' t) (h : Sub t X ∨ Disj t X) : Sub t' X ∨ Disj t' X :=
  h.imp hs.trans fun hd => hd.of_sub hs

theorem covers_append (a b : List Range) (c : Nat) : Covers (a ++ b) c ↔ Covers a c ∨ Covers b c := by
  simp only [Covers, List.mem_append, or_and_right, exists_or]

theorem covers_singleton (r : Range) (c : Nat) : Covers [r] c ↔ mem c r :=
  ⟨fun ⟨_, h, hm⟩ => List.mem_singleton.mp h ▸ hm, fun hm => ⟨r, List.mem_singleton_self r, hm⟩⟩

theorem pairwiseDisj_iff {v : List Range} : PairwiseDisj v ↔ v.Pairwise Disj := by
  rw [List.pairwise_iff_getElem]
  constructor
  · intro h i j hi hj hij
    exact h i j v[i] v[j] hij (List.getElem?_eq_getElem hi) (List.getElem?_eq_getElem hj)
  · intro h i j a b hij ha hb
    obtain ⟨hi, rfl⟩ := List.getElem?_eq_some_iff.mp ha
    obtain ⟨hj, rfl⟩ := List.getElem?_eq_some_iff.mp hb
    exact h i j hi hj hij

theorem PairwiseDisj.disj_of_ne {v : List Range} (h : PairwiseDisj v) {i j : Nat} {a b : Range} (hij : i ≠ j)
    (ha : v[i]? = some a) (hb : v[j]? = some b) : Disj a b := by
  by_cases hlt : i < j
  · exact h i j a b hlt ha hb
  · exact (h j i b a (by omega) hb ha).symm

theorem PairwiseDisj.fine {v : List Range} (h : PairwiseDisj v) {i : Nat} {m : Range} (hm : v[i]? = some m) : Fine v m := by
  intro t ht
  obtain ⟨j, hj⟩ := List.mem_iff_getElem?.mp ht
  by_cases hji : j = i
  · rw [hji, hm] at hj
    cases hj
    exact .inl (Sub.refl _)
  · exact .inr (h.disj_of_ne hji hj hm)

theorem post_refl {range : Range} (start : Nat) {v : List Range} (hpd : PairwiseDisj v) (hf : Fine v range)
    (hc : ∀ c, mem c range → Covers v c) : AddRangePost range start v v :=
  ⟨hpd, fun c => ⟨Or.inl, fun h => h.elim id (hc c)⟩, fun t' ht' => .inl ⟨t', ht', Sub.refl _⟩, hf,
    fun _ _ => rfl, Nat.le_refl _⟩

theorem post_push {range : Range} {start : Nat} {v : List Range} (hpd : PairwiseDisj v) (hs : start ≤ v.length)
    (hall : ∀ a, a ∈ v → Disj range a) : AddRangePost range start v (v ++ [range]) := by
  refine ⟨?_, fun c => by rw [covers_append, covers_singleton], fun t' ht' => ?_, fun t ht => ?_, fun i hi => ?_,
    by simp⟩
  · rw [pairwiseDisj_iff] at hpd ⊢
    refine List.pairwise_append.mpr ⟨hpd, List.pairwise_singleton _ _, fun a ha b hb => ?_⟩
    rw [List.mem_singleton.mp hb]
    exact (hall a ha).symm
  · rcases List.mem_append.mp ht' with h | h
    · exact .inl ⟨t', h, Sub.refl _⟩
    · rw [List.mem_singleton.mp h]
      exact .inr ⟨Sub.refl _, fun c hc ⟨t, ht, hm⟩ => hall t ht c ⟨hc, hm⟩⟩
  · rcases List.mem_append.mp ht with h | h
    · exact .inr (hall t h).symm
    · rw [List.mem_singleton.mp h]
      exact .inl (Sub.refl _)
  · rw [List.getElem?_append_left (by omega)]

theorem AddRangePost.fine_of {range : Range} {start : Nat} {v v' : List Range} (P : AddRangePost range start v v')
    {X : Range} (hv : Fine v X) (hr : Sub range X ∨ Disj range X) : Fine v' X := by
  intro t' ht'
  rcases P.orig t' ht' with ⟨t, ht, hs⟩ | ⟨hs, _⟩
  · exact hs.fine (hv t ht)
  · exact hs.fine hr

theorem sub_of_set {v : List Range} {idx : Nat} {o m : Range} (ho : v[idx]? = some o) (hs : Sub m o)
    {k : Nat} {a : Range} (ha : (v.set idx m)[k]? = some a) : ∃ a', v[k]? = some a' ∧ Sub a a' := by
  by_cases hk : idx = k
  · rw [← hk, List.getElem?_set_self (List.getElem?_eq_some_iff.mp ho).1] at ha
    cases ha
    exact ⟨o, hk ▸ ho, hs⟩
  · rw [List.getElem?_set_ne hk] at ha
    exact ⟨a, ha, Sub.refl a⟩

theorem mem_set_sub {v : List Range} {idx : Nat} {o m : Range} (ho : v[idx]? = some o) (hs : Sub m o)
    {a : Range} (ha : a ∈ v.set idx m) : ∃ a', a' ∈ v ∧ Sub a a' := by
  obtain ⟨k, hk⟩ := List.mem_iff_getElem?.mp ha
  obtain ⟨a', ha', hsub⟩ := sub_of_set ho hs hk
  exact ⟨a', List.mem_iff_getElem?.mpr ⟨k, ha'⟩, hsub⟩

theorem PairwiseDisj.set_sub {v : List Range} (h : PairwiseDisj v) {idx : Nat} {o m : Range} (ho : v[idx]? = some o)
    (hs : Sub m o) : PairwiseDisj (v.set idx m) := by
  intro i j a b hij ha hb
  obtain ⟨a', ha', sa⟩ := sub_of_set ho hs ha
  obtain ⟨b', hb', sb⟩ := sub_of_set ho hs hb
  exact (((h i j a' b' hij ha' hb').of_sub sa).symm.of_sub sb).symm

theorem covers_cases {v : List Range} {idx : Nat} {o : Range} (ho : v[idx]? = some o) (m : Range) {c : Nat}
    (h : Covers v c) : mem c o ∨ Covers (v.set idx m) c := by
  obtain ⟨t, ht, hm⟩ := h
  obtain ⟨j, hj⟩ := List.mem_iff_getElem?.mp ht
  by_cases hji : idx = j
  · rw [← hji, ho] at hj
    cases hj
    exact .inl hm
  · exact .inr ⟨t, List.mem_iff_getElem?.mpr ⟨j, by rw [List.getElem?_set_ne hji]; exact hj⟩, hm⟩

theorem AddRangePre.congr {P : Range} {s : Nat} {v v2 : List Range} (h : AddRangePre P s v)
    (he : ∀ i, i < s → v2[i]? = v[i]?) : AddRangePre P s v2 :=
  fun i a hi ha => h i a hi (by rw [← he i hi]; exact ha)

/-- a piece of the cut that belongs to one of the two ranges only may be added behind `idx`:
as part of `range` it avoids what `range` avoids (everything before `start`, and everything the
search skipped), as part of `o` it avoids what `o` avoids -/
theorem pre_piece {range o mid P : Range} {start idx : Nat} {v : List Range} (hpd : PairwiseDisj v)
    (hpre : AddRangePre range start v) (ho : v[idx]? = some o)
    (hskip : ∀ j r, start ≤ j → j < idx → v[j]? = some r → Disj range r)
    (hside : OneSided P range o) (hmid : Disj P mid) :
    AddRangePre P (idx + 1) (v.set idx mid) := by
  intro i a hi ha
  by_cases hii : idx = i
  · rw [← hii, List.getElem?_set_self (List.getElem?_eq_some_iff.mp ho).1] at ha
    cases ha
    exact hmid
  · rw [List.getElem?_set_ne hii] at ha
    rcases hside with ⟨hs, _⟩ | ⟨hs, _⟩
    · by_cases his : i < start
      · exact (hpre i a his ha).of_sub hs
      · exact (hskip i a (by omega) (by omega) ha).of_sub hs
    · exact (hpd i idx a o (by omega) ha ho).symm.of_sub hs

theorem fine_of_cut {range o low mid mx t' : Range} (hc : Cut range o low mid mx)
    (hlow : Sub t' low ∨ Disj t' low) (hmid : Sub t' mid ∨ Disj t' mid)
    (hmx : Sub t' mx ∨ Disj t' mx) : Sub t' range ∨ Disj t' range := by
  have side : ∀ {P : Range}, OneSided P range o → Sub t' P → Sub t' range ∨ Disj t' range := by
    intro P hP hs
    rcases hP with ⟨h, _⟩ | ⟨_, h⟩
    · exact .inl (hs.trans h)
    · exact .inr (h.of_sub hs)
  rcases hmid with hmid | hmid
  · exact .inl (hmid.trans hc.mid_range)
  rcases hlow with hlow | hlow
  · exact side hc.low_side hlow
  rcases hmx with hmx | hmx
  · exact side hc.mx_side hmx
  right
  intro c h
  rcases hc.cover c (.inl h.2) with h' | h' | h'
  · exact hlow c ⟨h.1, h'⟩
  · exact hmid c ⟨h.1, h'⟩
  · exact hmx c ⟨h.1, h'⟩

/-- `v[idx] = o` overlaps `range`; `o` is replaced by `mid`, then `low` and `mx` are added -/
theorem post_split {range o low mid mx : Range} {start idx : Nat} {v v2 v' : List Range}
    (hsi : start ≤ idx) (ho : v[idx]? = some o) (hc : Cut range o low mid mx)
    (hpd1 : PairwiseDisj (v.set idx mid)) (P1 : AddRangePost low (idx + 1) (v.set idx mid) v2)
    (P2 : AddRangePost mx (idx + 1) v2 v') : AddRangePost range start v v' := by
  have o_mem : o ∈ v := List.mem_iff_getElem?.mpr ⟨idx, ho⟩
  have hidx : idx < v.length := (List.getElem?_eq_some_iff.mp ho).1
  -- a part of a one-sided piece that misses `v.set idx mid` is a part of `o`, or of `range` missing `v`
  have side : ∀ {P t' : Range}, OneSided P range o → Sub t' P → (∀ c, mem c t' → ¬ Covers (v.set idx mid) c) →
      (∃ t, t ∈ v ∧ Sub t' t) ∨ (Sub t' range ∧ ∀ c, mem c t' → ¬ Covers v c) := by
    intro P t' hP hs hmiss
    rcases hP with ⟨hr, hdo⟩ | ⟨hso, _⟩
    · refine .inr ⟨hs.trans hr, fun c hc' hcov => ?_⟩
      rcases covers_cases ho mid hcov with h | h
      · exact hdo c ⟨hs c hc', h⟩
      · exact hmiss c hc' h
    · exact .inl ⟨o, o_mem, hs.trans hso⟩
  refine ⟨P2.pd, fun c => ?_, fun t' ht' => ?_, fun t' ht' => ?_, fun i hi => ?_, ?_⟩
  · rw [P2.cov, P1.cov]
    constructor
    · rintro ((⟨t1, ht1, hm⟩ | h) | h)
      · obtain ⟨t, ht, hs⟩ := mem_set_sub ho hc.mid_o ht1
        exact .inl ⟨t, ht, hs c hm⟩
      · exact (hc.low_side.mem h).symm.imp_left fun h => ⟨o, o_mem, h⟩
      · exact (hc.mx_side.mem h).symm.imp_left fun h => ⟨o, o_mem, h⟩
    · have pieces : mem c low ∨ mem c mid ∨ mem c mx →
          (Covers (v.set idx mid) c ∨ mem c low) ∨ mem c mx := by
        rintro (h | h | h)
        · exact .inl (.inr h)
        · exact .inl (.inl ⟨mid, List.mem_set hidx mid, h⟩)
        · exact .inr h
      rintro (h | h)
      · rcases covers_cases ho mid h with h | h
        · exact pieces (hc.cover c (.inr h))
        · exact .inl (.inl h)
      · exact pieces (hc.cover c (.inl h))
  · rcases P2.orig t' ht' with ⟨t2, ht2, hs2⟩ | ⟨hsx, hmiss2⟩
    · rcases P1.orig t2 ht2 with ⟨t1, ht1, hs1⟩ | ⟨hsl, hmiss1⟩
      · obtain ⟨t, ht, hs⟩ := mem_set_sub ho hc.mid_o ht1
        exact .inl ⟨t, ht, (hs2.trans hs1).trans hs⟩
      · exact side hc.low_side (hs2.trans hsl) fun c hc' => hmiss1 c (hs2 c hc')
    · exact side hc.mx_side hsx fun c hc' h1 => hmiss2 c hc' ((P1.cov c).mpr (.inl h1))
  · -- inside or disjoint with respect to each of the three pieces, hence to `range`
    exact fine_of_cut hc (P2.fine_of P1.fine (.inr hc.low_mx.symm) t' ht')
      (P2.fine_of (P1.fine_of (hpd1.fine (List.getElem?_set_self hidx)) (.inr hc.low_mid))
        (.inr hc.mid_mx.symm) t' ht')
      (P2.fine t' ht')
  · rw [P2.pre i (by omega), P1.pre i (by omega), List.getElem?_set_ne (by omega)]
  · have := P1.len
    have := P2.len
    rw [List.length_set] at *
    omega

theorem addRange_post : ∀ (f : Nat) (range : Range) (start : Nat) (v v' : List Range),
    addRange f range start v = .ok v' → PairwiseDisj v → AddRangePre range start v → start ≤ v.length →
    AddRangePost range start v v' := by
  intro f
  induction f with
  | zero => intro range start v v' h; cases h
  | succ f ih =>
    intro range start v v' h hpd hpre hstart
    rw [addRange] at h
    split at h
    · rename_i hemp
      cases h
      exact post_refl start hpd (fun t _ => .inr (isEmpty_disj hemp t).symm)
        fun c hm => absurd ⟨hm, hm⟩ (isEmpty_disj hemp range c)
    · split at h
      · rename_i hnone
        cases h
        refine post_push hpd hstart fun a ha => ?_
        obtain ⟨j, hj⟩ := List.mem_iff_getElem?.mp ha
        by_cases hjs : j < start
        · exact hpre j a hjs hj
        · exact ((not_intersects_iff _ _).mp (findFrom_none hnone j a (by omega) hj)).symm
      · rename_i idx hsome
        obtain ⟨hsi, hidx, ⟨o, ho, hio⟩, hbefore⟩ := findFrom_some hsome
        simp only [ho, Option.getD_some] at h
        split at h
        · rename_i heq
          cases h
          exact post_refl start hpd (hpd.fine (heq ▸ ho))
            fun c hm => ⟨o, List.mem_iff_getElem?.mpr ⟨idx, ho⟩, heq ▸ hm⟩
        · have hc := pieces_cut (range := range) (o := o) (by
            obtain ⟨c, h1, h2⟩ := (intersects_iff _ _).mp hio
            exact ⟨c, h2, h1⟩)
          generalize pieces range o = p at h hc
          obtain ⟨low, mid, mx⟩ := p
          simp only at h hc
          split at h
          · cases h
          · obtain ⟨v2, h1, h⟩ := bind_eq_ok h
            have hskip : ∀ j r, start ≤ j → j < idx → v[j]? = some r → Disj range r :=
              fun j r a b c => ((not_intersects_iff _ _).mp (hbefore j r a b c)).symm
            have hpd1 := hpd.set_sub ho hc.mid_o
            have P1 := ih low (idx + 1) _ v2 h1 hpd1
              (pre_piece hpd hpre ho hskip hc.low_side hc.low_mid) (by rw [List.length_set]; omega)
            have P2 := ih mx (idx + 1) v2 v' h P1.pd
              ((pre_piece hpd hpre ho hskip hc.mx_side hc.mid_mx.symm).congr P1.pre)
              (by have := P1.len; rw [List.length_set] at this; omega)
            exact post_split hsi ho hc hpd1 P1 P2

/-- the loop invariant of `remove_overlap`: `v` partitions what the ranges `S` added so far cover -/
structure AllInv (S v : List Range) : Prop where
  pd : PairwiseDisj v
  cov : ∀ c, Covers v c ↔ Covers S c
  fine : ∀ X, X ∈ S → Fine v X

theorem addAll_inv (fuel : Nat) : ∀ (rs S v v' : List Range),
    addAll (addRange fuel) rs v = .ok v' → AllInv S v → AllInv (S ++ rs) v' := by
  intro rs
  induction rs with
  | nil => intro S v v' h hinv; cases h; simpa using hinv
  | cons r rs ih =>
    intro S v v' h hinv
    obtain ⟨v1, h1, h⟩ := bind_eq_ok h
    have P := addRange_post fuel r 0 v v1 h1 hinv.pd (fun i a hi => absurd hi (Nat.not_lt_zero i)) (Nat.zero_le _)
    have hinv1 : AllInv (S ++ [r]) v1 := by
      refine ⟨P.pd, fun c => by rw [P.cov, hinv.cov, covers_append, covers_singleton], fun X hX t' ht' => ?_⟩
      rcases List.mem_append.mp hX with hX | hX
      · rcases P.orig t' ht' with ⟨t, ht, hs⟩ | ⟨_, hmiss⟩
        · exact hs.fine (hinv.fine X hX t ht)
        · exact .inr fun c hc => hmiss c hc.1 ((hinv.cov c).mpr ⟨X, hX, hc.2⟩)
      · rw [List.mem_singleton.mp hX]
        exact P.fine t' ht'
    have := ih (S ++ [r]) v1 v' h hinv1
    rwa [List.append_assoc] at this

/-- **remove_overlap_partition** (fixed `add_range`): the output ranges are non-empty and
pairwise disjoint, cover exactly what the input ranges cover, and each of them lies inside or is
disjoint from every input range. -/
theorem removeOverlap_partition (fuel : Nat) (ranges out : List Range)
    (h : removeOverlap fuel ranges = .ok out) :
    out.Pairwise Disj ∧
    (∀ t, t ∈ out → isEmpty t = false) ∧
    (∀ c, (∃ t, t ∈ out ∧ mem c t) ↔ (∃ r, r ∈ ranges ∧ mem c r)) ∧
    (∀ t, t ∈ out → ∀ r, r ∈ ranges → Sub t r ∨ Disj t r) := by
  obtain ⟨v, h1, h⟩ := bind_eq_ok h
  cases h
  have hinv := addAll_inv fuel (asSet ranges) [] [] v h1
    ⟨fun i j a b _ ha => by simp at ha, fun c => Iff.rfl, fun X hX => by cases hX⟩
  simp only [List.nil_append] at hinv
  have hset : ∀ r, r ∈ asSet ranges ↔ r ∈ ranges := by
    intro r; simp [asSet, List.mem_eraseDups, mem_isort]
  have hmem : ∀ t, t ∈ isort rangeLe (v.filter (fun r => !isEmpty r)) ↔ t ∈ v ∧ isEmpty t = false := by
    intro t; simp [mem_isort, List.mem_filter]
  refine ⟨?_, fun t ht => ((hmem t).mp ht).2, ?_, ?_⟩
  · have hp : (isort rangeLe (v.filter (fun r => !isEmpty r))).Perm (v.filter (fun r => !isEmpty r)) :=
      isort_perm _ _
    rw [hp.pairwise_iff (fun h => Disj.symm h)]
    exact (pairwiseDisj_iff.mp hinv.pd).filter _
  · intro c
    constructor
    · rintro ⟨t, ht, hm⟩
      obtain ⟨r, hr, hm'⟩ := (hinv.cov c).mp ⟨t, ((hmem t).mp ht).1, hm⟩
      exact ⟨r, (hset r).mp hr, hm'⟩
    · rintro ⟨r, hr, hm⟩
      obtain ⟨t, ht, hm'⟩ := (hinv.cov c).mpr ⟨r, (hset r).mpr hr, hm⟩
      exact ⟨t, (hmem t).mpr ⟨ht, not_isEmpty_of_mem hm'⟩, hm'⟩
  · intro t ht r hr
    exact hinv.fine r ((hset r).mpr hr) t ((hmem t).mp ht).1

end LalrpopModel.Dfa
