import LalrpopModel.Lemmas.LRSoundReduce
import LalrpopModel.Lemmas.LRGenericBasic
/-!
Soundness of the model driver: the run invariant `Inv` and its preservation by `step`
(all phases, error recovery included). `step` is followed phase by phase on the model's own
equations, not through the relational `Generic.Step`: the validator facts fix the answer of every
table lookup beforehand, so rewriting `step` with them selects the branch taken and the panic sites
never appear; a case analysis on `Step` would return every branch, each with lookups of its own to
be identified with the known ones, and its panic cases do not say which lookup failed. Only
`next_token` is read off its relation (`Generic.NextSpec`, whose panic case keeps the failing call).
-/
namespace LalrpopModel.LR
open Generic (recStart recEnd)
variable {G : Grammar} {T : Tables} {A : Automaton}

/-- a lookahead carried through error recovery is a token with its own kind, in range -/
def laOK (T : Tables) (la : Option (Tok × Term)) : Prop :=
  ∀ t i, la = some (t, i) → t.kind = some i ∧ i < T.nTerm

def laToks : Option (Tok × Term) → List Tok
  | some (t, _) => [t]
  | none => []

/-- tokens held by the phase (pulled from the stream, not yet on the stack) -/
def phaseToks : Phase → List Tok
  | .act la _ => [la]
  | .recReduce la _ _ => laToks la
  | .recFind la _ _ _ _ => laToks la
  | .done (.ok v) => v.yield
  | _ => []

/-- stack yield, then the tokens held by the phase, then the rest of the stream -/
def measure (c : Cfg) (ph : Phase) : List Item :=
  (stackYield c.symbols ++ phaseToks ph).map Item.tok ++ c.input

/-- without recovery no token is lost: what the configuration accounts for is the stream. (With
    recovery on, the accounting is that of `GenericThms.covered_subsequence`, for any tables.) -/
def YInv (T : Tables) (input : List Item) (c : Cfg) (ph : Phase) : Prop :=
  T.usesRecovery = false → measure c ph = input

def InRange (T : Tables) (l : List Item) : Prop :=
  ∀ t k, Item.tok t ∈ l → t.kind = some k → k < T.nTerm

/-- what the phase's own data promise; an absent lookahead means the stream is exhausted -/
def Live (T : Tables) (c : Cfg) : Phase → Prop
  | .pull => True
  | .act la idx => la.kind = some idx ∧ idx < T.nTerm
  | .eof => c.input = []
  | .recReduce la _ fromEof =>
      T.usesRecovery = true ∧ laOK T la ∧ (fromEof = true → la = none) ∧ (la = none → c.input = [])
  | .recFind la _ _ sl fromEof =>
      T.usesRecovery = true ∧ laOK T la ∧ (fromEof = true → la = none) ∧ (la = none → c.input = []) ∧
        sl ≤ c.states.length
  | .done _ => True

/-- The invariant of a run on `input`. Before the end: the state stack is a path of the automaton
    from state 0 over the roots of the well-formed trees on the symbol stack (`StackInv`; hence every
    core item of every stacked state is valid for the stack below it), the unread stream is `InRange`,
    and `YInv`, `Live` hold. At the end: an accepted value is a well-formed tree of the start symbol,
    and the only panic is the fuel of `accepts`. -/
def Inv (G : Grammar) (T : Tables) (A : Automaton) (input : List Item) (c : Cfg) : Phase → Prop
  | .done (.ok v) => Tree.WF G (errT T) v ∧
      (∀ S0, G.startSym = some S0 → v.root G (errT T) = some (Sym.n S0)) ∧
      (T.usesRecovery = false → c.symbols = [] ∧ c.input = []) ∧ YInv T input c (.done (.ok v))
  | .done (.err _) => True
  | .done (.panic tag) => tag = .outOfFuel
  | ph => StackInv G T A c ∧ InRange T c.input ∧ YInv T input c ph ∧ Live T c ph

theorem inv_stack {input : List Item} {c : Cfg} {ph : Phase} (h : Inv G T A input c ph)
    (hnd : Generic.phDone ph = false) : StackInv G T A c ∧ YInv T input c ph := by
  cases ph with
  | done r => cases hnd
  | _ => exact ⟨h.1, h.2.2.1⟩

theorem YInv.of_eq {input : List Item} {c c' : Cfg} {ph ph' : Phase} (h : YInv T input c ph)
    (he : measure c' ph' = measure c ph) : YInv T input c' ph' := by
  unfold YInv
  rw [he]
  exact h

theorem YInv.of_rec {input : List Item} {c : Cfg} {ph : Phase} (hrec : T.usesRecovery = true) :
    YInv T input c ph :=
  fun hf => Bool.noConfusion (hrec.symm.trans hf)

theorem StackInv.top (S : Sound G T A) {c : Cfg} (h : StackInv G T A c) :
    ∃ top rest, c.states = top :: rest ∧ top < A.states.length := by
  obtain ⟨Xs, hp, _⟩ := h
  cases hs : c.states with
  | nil => exact absurd hs hp.ne_nil
  | cons top rest => exact ⟨top, rest, rfl, (hs ▸ hp).top_lt S⟩

theorem YInv.accept {input : List Item} {c c' : Cfg} {ph : Phase} {v : Tree} (h : YInv T input c ph)
    (hT : T.usesRecovery = false → phaseToks ph = []) (hi : c'.input = c.input) (hs : c'.symbols = [])
    (hy : v.yield = stackYield c.symbols) : YInv T input c' (.done (.ok v)) := by
  have e : measure c' (.done (.ok v)) = (stackYield c.symbols).map Item.tok ++ c.input := by
    simp only [measure, phaseToks, hi, hs, hy, stackYield, List.nil_append]
  intro hf
  rw [e, ← h hf, measure, hT hf, List.append_nil]

theorem InRange.nil : InRange T [] :=
  fun _ _ hm => nomatch hm

theorem InRange.tail {x : Item} {l : List Item} (h : InRange T (x :: l)) : InRange T l :=
  fun t k hm hk => h t k (List.mem_cons_of_mem _ hm) hk

theorem InRange.head {t : Tok} {i : Term} {rest : List Item}
    (h : InRange T (.tok t :: rest)) (hk : t.kind = some i) : i < T.nTerm :=
  h t i (List.mem_cons_self ..) hk

theorem nextToken_inv (S : Sound G T A) (af : Nat) (input : List Item) {c : Cfg} (hst : StackInv G T A c)
    (hr : InRange T c.input) :
    match nextToken T af c with
    | (c', .found t i) => StackInv G T A c' ∧ InRange T c'.input ∧ c.input = .tok t :: c'.input ∧
        t.kind = some i ∧ i < T.nTerm ∧ c'.states = c.states ∧ c'.symbols = c.symbols
    | (c', .eof) => StackInv G T A c' ∧ c.input = [] ∧ c'.input = [] ∧ c'.states = c.states ∧
        c'.symbols = c.symbols
    | (c', .done r) => Inv G T A input c' (.done r) := by
  have h := Generic.nextToken_spec T af c
  generalize nextToken T af c = x at h
  obtain ⟨c', nt⟩ := x
  cases h with
  | eof hi => exact ⟨hst, hi, hi, rfl, rfl⟩
  | err e rest hi => trivial
  | found t i rest hi hk => exact ⟨hst, (hi ▸ hr).tail, hi, hk, (hi ▸ hr).head hk, rfl, rfl⟩
  | unrec t rest hi hk ex hex => trivial
  | panic t rest hi hk tag hex =>
    obtain ⟨Xs, hp, _⟩ := hst
    exact expected_no_panic S hp hex

theorem enterRecovery_inv (S : Sound G T A) {input : List Item} {c : Cfg} (af : Nat)
    (la : Option (Tok × Term)) (fromEof : Bool)
    (hst : StackInv G T A c) (hr : InRange T c.input)
    (hy : ∀ pe, YInv T input c (.recReduce la pe fromEof)) (hla : laOK T la)
    (hfe : fromEof = true → la = none) (hin : la = none → c.input = []) :
    Inv G T A input (enterRecovery T af c la fromEof).1 (enterRecovery T af c la fromEof).2 := by
  obtain ⟨Xs, hp, _⟩ := id hst
  unfold enterRecovery
  rw [Generic.unrecognizedError_eq]
  cases he : expected T af c.states with
  | error e => exact expected_no_panic S hp he
  | ok ex =>
    cases hrec : T.usesRecovery with
    | false => trivial
    | true => exact ⟨hst, hr, hy _, hrec, hla, hfe, hin⟩

theorem reduce_inv (S : Sound G T A) {input : List Item} (failAt : Option Nat) (startLoc : Int) {c : Cfg}
    {ph : Phase} (la : Option Int) {a : Int} {p top : Nat} {rest : List Nat}
    (hst : c.states = top :: rest) (hinv : StackInv G T A c) (hr : InRange T c.input)
    (hy : YInv T input c ph)
    (hred : a < 0 → ∃ pr, G.prods[(-(a + 1)).toNat]? = some pr ∧
      ((-(a + 1)).toNat, pr.rhs.length) ∈ A.coresOf top)
    (hpa : asReduce a = some p) :
    match reduce T failAt startLoc c p la with
    | .continue_ c' => StackInv G T A c' ∧ InRange T c'.input ∧ YInv T input c' ph ∧ c'.input = c.input
    | .finished c' r =>
        (∀ v, r = .ok v → T.usesRecovery = false → phaseToks ph = [] ∧ c.input = []) →
          Inv G T A input c' (.done r) := by
  obtain ⟨Xs, hpath, htrees⟩ := hinv
  obtain ⟨hneg, rfl⟩ := asReduce_some hpa
  obtain ⟨pr, hpr, hit⟩ := hred hneg
  have hspec := reduce_stackInv S failAt startLoc c _ pr la hst hpath htrees hpr hit
  generalize reduce T failAt startLoc c _ la = rr at hspec ⊢
  cases rr with
  | continue_ c' =>
    obtain ⟨hs, hi, hyl⟩ := hspec
    exact ⟨hs, hi ▸ hr, hy.of_eq (by simp only [measure, hi, hyl]), hi⟩
  | finished c' r =>
    cases r with
    | ok v =>
      obtain ⟨hw, hroot, hi, hsy, hyv⟩ := hspec
      intro hE
      exact ⟨hw, hroot, fun hf => ⟨hsy, hi ▸ (hE v rfl hf).2⟩, hy.accept (fun hf => (hE v rfl hf).1) hi hsy hyv⟩
    | err e => exact fun _ => trivial
    | panic tag => exact hspec.elim

theorem step_pull (S : Sound G T A) {input : List Item} {c : Cfg} (af : Nat) (failAt : Option Nat)
    (startLoc : Int) (h : Inv G T A input c .pull) :
    Inv G T A input (step T af failAt startLoc c .pull).1 (step T af failAt startLoc c .pull).2 := by
  obtain ⟨hst, hr, hy, _⟩ := h
  have hspec := nextToken_inv S af input hst hr
  simp only [step]
  generalize nextToken T af c = nt at hspec
  obtain ⟨c', r⟩ := nt
  cases r with
  | found t i =>
    obtain ⟨hs', hr', hi, hk, hlt, _, hsy⟩ := hspec
    exact ⟨hs', hr', hy.of_eq (by simp [measure, phaseToks, hi, hsy]), hk, hlt⟩
  | eof =>
    obtain ⟨hs', hi, hi', _, hsy⟩ := hspec
    exact ⟨hs', hi' ▸ InRange.nil, hy.of_eq (by simp [measure, phaseToks, hi, hi', hsy]), hi'⟩
  | done r => exact hspec

theorem step_act (S : Sound G T A) {input : List Item} {c : Cfg} (af : Nat) (failAt : Option Nat)
    (startLoc : Int) (la : Tok) (idx : Term) (h : Inv G T A input c (.act la idx)) :
    Inv G T A input (step T af failAt startLoc c (.act la idx)).1 (step T af failAt startLoc c (.act la idx)).2 := by
  obtain ⟨hinv, hr, hy, hk, hidx⟩ := h
  obtain ⟨top, rest, hst, hlt⟩ := hinv.top S
  obtain ⟨a, ha, hshift, hred⟩ := S.action top idx hlt hidx
  simp only [step, hst, ha]
  cases hsh : asShift a with
  | some target =>
    obtain ⟨hpos, ht⟩ := asShift_some hsh
    obtain ⟨Xs, hpath, htrees⟩ := hinv
    refine ⟨⟨Sym.t idx :: Xs, Path.push (hst ▸ hpath) (ht ▸ hshift hpos), ?_⟩, hr, hy.of_eq ?_, trivial⟩
    · exact TreesOK.cons (Tree.WF.leaf la idx hk) (by simp [Tree.root, hk]) htrees
    · simp [measure, phaseToks, stackYield, Tree.yield]
  | none =>
    cases hrd : asReduce a with
    | some p =>
      have hspec := reduce_inv S failAt startLoc (some la.l) hst hinv hr hy hred hrd
      simp only []
      generalize reduce T failAt startLoc c p (some la.l) = rr at hspec
      cases rr with
      | continue_ c' => exact ⟨hspec.1, hspec.2.1, hspec.2.2.1, hk, hidx⟩
      | finished c' r =>
        cases r with
        | ok v => trivial
        | err e => trivial
        | panic tag => exact hspec nofun
    | none =>
      refine enterRecovery_inv S af (some (la, idx)) false hinv hr (fun pe => hy.of_eq rfl) ?_
        nofun nofun
      intro t i he
      cases he
      exact ⟨hk, hidx⟩

theorem step_eof (S : Sound G T A) {input : List Item} {c : Cfg} (af : Nat) (failAt : Option Nat)
    (startLoc : Int) (h : Inv G T A input c .eof) :
    Inv G T A input (step T af failAt startLoc c .eof).1 (step T af failAt startLoc c .eof).2 := by
  obtain ⟨hinv, hr, hy, hin⟩ := h
  obtain ⟨top, rest, hst, hlt⟩ := hinv.top S
  obtain ⟨a, ha, hred⟩ := S.eofAction top hlt
  simp only [step, hst, ha]
  cases hrd : asReduce a with
  | some p =>
    have hspec := reduce_inv S failAt startLoc none hst hinv hr hy hred hrd
    simp only []
    generalize reduce T failAt startLoc c p none = rr at hspec
    cases rr with
    | continue_ c' => exact ⟨hspec.1, hspec.2.1, hspec.2.2.1, hspec.2.2.2.trans hin⟩
    | finished c' r => exact hspec fun _ _ _ => ⟨rfl, hin⟩
  | none =>
    exact enterRecovery_inv S af none true hinv hr (fun pe => hy.of_eq rfl) nofun (fun _ => rfl) (fun _ => hin)

theorem errorAction_spec (S : Sound G T A) (hrec : T.usesRecovery = true) {st : Nat}
    (hlt : st < A.states.length) :
    ∃ a, T.errorActionAt st = some a ∧
      (∀ es, asShift a = some es → A.trans st (Sym.t (T.nTerm - 1)) = some es) ∧
      (a < 0 → ∃ pr, G.prods[(-(a + 1)).toNat]? = some pr ∧ ((-(a + 1)).toNat, pr.rhs.length) ∈ A.coresOf st) := by
  have hpos := S.rec_nTerm hrec
  obtain ⟨a, ha, hshift, hred⟩ := S.action st (T.nTerm - 1) hlt (Nat.sub_lt hpos Nat.one_pos)
  refine ⟨a, ha, ?_, hred⟩
  intro es hes
  obtain ⟨h1, h2⟩ := asShift_some hes
  rw [h2]
  exact hshift h1

theorem step_recReduce (S : Sound G T A) {input : List Item} {c : Cfg} (af : Nat) (failAt : Option Nat)
    (startLoc : Int) (la : Option (Tok × Term)) (error : PErr) (fromEof : Bool)
    (h : Inv G T A input c (.recReduce la error fromEof)) :
    Inv G T A input (step T af failAt startLoc c (.recReduce la error fromEof)).1
      (step T af failAt startLoc c (.recReduce la error fromEof)).2 := by
  obtain ⟨hinv, hr, hy, hrec, hla, hfe, hin⟩ := h
  obtain ⟨top, rest, hst, hlt⟩ := hinv.top S
  obtain ⟨a, ha, _, hred⟩ := errorAction_spec S hrec hlt
  simp only [step, hst, ha]
  cases hrd : asReduce a with
  | some p =>
    have hspec := reduce_inv S failAt startLoc (la.map (·.1.l)) hst hinv hr hy hred hrd
    simp only []
    generalize reduce T failAt startLoc c p (la.map (·.1.l)) = rr at hspec
    cases rr with
    | continue_ c' =>
      exact ⟨hspec.1, hspec.2.1, hspec.2.2.1, hrec, hla, hfe, fun hn => hspec.2.2.2.trans (hin hn)⟩
    | finished c' r => exact hspec fun _ _ hf => Bool.noConfusion (hrec.symm.trans hf)
  | none => exact ⟨hinv, hr, hy.of_eq rfl, hrec, hla, hfe, hin, Nat.le_of_eq (congrArg List.length hst.symm)⟩

/-- the error state may be pushed on a candidate stack of `'find_state` -/
theorem Path.push_err (S : Sound G T A) (hrec : T.usesRecovery = true) {states more : List Nat} {Xs : List Sym}
    (hp : Path A states Xs) {j st es : Nat} {a : Int} (hc : truncBot states j = st :: more)
    (ha : T.errorActionAt st = some a) (hes : asShift a = some es) :
    Path A (es :: st :: more) (Sym.t (T.nTerm - 1) :: Xs.drop (states.length - j)) := by
  have hpc := Path.drop _ hp hc
  obtain ⟨a', ha', hshift, _⟩ := errorAction_spec S hrec (hpc.top_lt S)
  cases ha.symm.trans ha'
  exact Path.push hpc (hshift es hes)

theorem findState_error (S : Sound G T A) (hrec : T.usesRecovery = true) {states : List Nat} {Xs : List Sym}
    (hp : Path A states Xs) {optIdx : Option Term} (hi : ∀ i, optIdx = some i → i < T.nTerm)
    {af sl k : Nat} {e : PanicTag} (h : findState T af optIdx sl states k = .error e) : e = .outOfFuel := by
  obtain ⟨j, ⟨hc, -⟩ | ⟨st, more, hc, ⟨ha, -⟩ | ⟨a, es, ha, hes, hacc⟩⟩⟩ := Generic.findState_error h
  · exact absurd hc (Generic.truncBot_ne_nil j hp.ne_nil)
  · obtain ⟨a, ha', _⟩ := errorAction_spec S hrec ((Path.drop _ hp hc).top_lt S)
    cases ha.symm.trans ha'
  · exact accepts_no_panic S af _ _ optIdx (hp.push_err S hrec hc ha hes) hi e hacc

theorem recStart_ok (startLoc : Int) {c : Cfg} (dropped : List Tok) {top : Nat}
    (h : top ≤ c.symbols.length) : ∃ s, recStart startLoc c dropped top = .ok s := by
  unfold recStart
  split
  · exact ⟨_, rfl⟩
  · split
    · exact ⟨_, rfl⟩
    · split
      · rename_i htop
        split
        · exact ⟨_, rfl⟩
        · rename_i hn
          exact absurd (Nat.lt_of_lt_of_le (Nat.sub_lt htop Nat.one_pos) h) (Nat.not_lt.mpr (Generic.getBot_none hn))
      · exact ⟨_, rfl⟩

theorem recEnd_ok {c : Cfg} (la : Option (Tok × Term)) (dropped : List Tok) {sl top : Nat}
    (start : Int) (h : sl - 1 > top → c.symbols ≠ []) : ∃ e, recEnd c la dropped sl top start = .ok e := by
  unfold recEnd
  split
  · exact ⟨_, rfl⟩
  · split
    · rename_i hgt
      cases hs : c.symbols with
      | nil => exact absurd hs (h hgt)
      | cons x xs => exact ⟨_, rfl⟩
    · split <;> exact ⟨_, rfl⟩

theorem pushRecovery_inv (S : Sound G T A) {input : List Item} {c : Cfg} (startLoc : Int)
    (la : Option (Tok × Term)) (error : PErr) (dropped : List Tok) (sl top : Nat) (fromEof : Bool)
    (hst : StackInv G T A c) (hr : InRange T c.input)
    (hrec : T.usesRecovery = true)
    (hla : laOK T la) (hfe : fromEof = true → la = none) (hin : la = none → c.input = [])
    (hsl : sl ≤ c.states.length) (htop : top < sl) {st es : Nat} {more : List Nat} {a : Int}
    (htb : truncBot c.states (top + 1) = st :: more) (ha : T.errorActionAt st = some a)
    (hes : asShift a = some es) :
    Inv G T A input (pushRecovery T startLoc c la error dropped sl top fromEof).1
      (pushRecovery T startLoc c la error dropped sl top fromEof).2 := by
  obtain ⟨Xs, hpath, htrees⟩ := hst
  have hlen : c.states.length = c.symbols.length + 1 := by rw [hpath.length, htrees.length]
  have hts : top < c.symbols.length + 1 := hlen ▸ Nat.lt_of_lt_of_le htop hsl
  obtain ⟨s0, hs0⟩ := recStart_ok startLoc (c := c) dropped (top := top) (Nat.le_of_lt_succ hts)
  obtain ⟨e0, he0⟩ := recEnd_ok (c := c) la dropped (sl := sl) (top := top) s0 (by
    intro hgt hn
    rw [hn] at hlen
    exact Nat.not_lt_zero top (Nat.lt_of_lt_of_le hgt (Nat.sub_le_of_le_add (hlen ▸ hsl))))
  rw [Generic.pushRecovery_eq]
  simp only [hs0, he0, htb, ha, hes]
  have hstack : StackInv G T A ⟨es :: st :: more, (s0, Tree.err error dropped, e0) :: truncBot c.symbols top,
      c.input, c.lastLoc, c.pulled, c.acts, c.trace⟩ := by
    refine ⟨_, hpath.push_err S hrec htb ha hes, ?_⟩
    rw [Generic.truncBot_shorter hlen top]
    refine TreesOK.cons (Tree.WF.err error dropped (T.nTerm - 1) (by simp [errT, hrec])) ?_ (TreesOK.drop _ htrees)
    simp [Tree.root, errT, hrec]
  cases la with
  | none =>
    simp only [afterRecovery, Inv]
    exact ⟨hstack, hr, .of_rec hrec, hin rfl⟩
  | some x =>
    obtain ⟨t, i⟩ := x
    cases fromEof with
    | true => cases hfe rfl
    | false =>
      simp only [afterRecovery, Inv]
      exact ⟨hstack, hr, .of_rec hrec, hla t i rfl⟩

theorem step_recFind (S : Sound G T A) {input : List Item} {c : Cfg} (af : Nat) (failAt : Option Nat)
    (startLoc : Int) (la : Option (Tok × Term)) (error : PErr) (dropped : List Tok) (sl : Nat) (fromEof : Bool)
    (h : Inv G T A input c (.recFind la error dropped sl fromEof)) :
    Inv G T A input (step T af failAt startLoc c (.recFind la error dropped sl fromEof)).1
      (step T af failAt startLoc c (.recFind la error dropped sl fromEof)).2 := by
  obtain ⟨hinv, hr, _, hrec, hla, hfe, hin, hsl⟩ := h
  obtain ⟨Xs, hpath, _⟩ := id hinv
  have hoi : ∀ i, la.map (·.2) = some i → i < T.nTerm := by
    intro i hi
    obtain ⟨⟨t, j⟩, rfl, rfl⟩ := Option.map_eq_some_iff.mp hi
    exact (hla t j rfl).2
  simp only [step]
  generalize hf : findState T af _ sl c.states sl = fr
  cases fr with
  | error e => exact findState_error S hrec hpath hoi hf
  | ok o =>
    cases o with
    | some top =>
      obtain ⟨ht, _, _, _, _, htb, ha, hes, _⟩ := Generic.findState_some hf
      exact pushRecovery_inv S startLoc la error dropped sl top fromEof hinv hr hrec hla hfe hin hsl ht htb ha hes
    | none =>
      cases la with
      | none => trivial
      | some x =>
        obtain ⟨t, i⟩ := x
        have hspec := nextToken_inv S af input hinv hr
        simp only []
        generalize nextToken T af c = nt at hspec
        obtain ⟨c', r⟩ := nt
        cases r with
        | found t' i' =>
          obtain ⟨hs', hr', _, hk, hlt, hs1, _⟩ := hspec
          refine ⟨hs', hr', .of_rec hrec, hrec, ?_,
            fun hf2 => absurd (hfe hf2) (Option.some_ne_none _), nofun, hs1 ▸ hsl⟩
          · intro t2 i2 he
            cases he
            exact ⟨hk, hlt⟩
        | eof =>
          obtain ⟨hs', _, hi', hs1, _⟩ := hspec
          exact ⟨hs', hi' ▸ InRange.nil, .of_rec hrec, hrec, nofun, fun _ => rfl, fun _ => hi', hs1 ▸ hsl⟩
        | done r => exact hspec

theorem step_inv (S : Sound G T A) {input : List Item} (af : Nat) (failAt : Option Nat) (startLoc : Int)
    (c : Cfg) (ph : Phase) (h : Inv G T A input c ph) :
    Inv G T A input (step T af failAt startLoc c ph).1 (step T af failAt startLoc c ph).2 := by
  cases ph with
  | pull => exact step_pull S af failAt startLoc h
  | act la idx => exact step_act S af failAt startLoc la idx h
  | eof => exact step_eof S af failAt startLoc h
  | recReduce la e f => exact step_recReduce S af failAt startLoc la e f h
  | recFind la e d sl f => exact step_recFind S af failAt startLoc la e d sl f h
  | done r => exact h
end LalrpopModel.LR
