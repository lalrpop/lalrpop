import LalrpopModel.Lemmas.LRSoundBasic
import LalrpopModel.Lemmas.LRValidShape
/-!
Soundness of the model driver: what `validateSound G T A = true` means, as propositions
(`Sound G T A`), and the basic consequences for paths of the automaton.
-/
namespace LalrpopModel.LR

/-! ### the computed closure lies inside the LR(0) closure: it adds only initial items of nonterminals
    that occur in a rhs -/

/-- an item added by closure: dot 0, and its lhs occurs after some dot -/
def FromClosure (G : Grammar) (it : Item0) : Prop :=
  it.2 = 0 ∧ ∃ pr p d, G.prods[it.1]? = some pr ∧ symAt G p d = some (Sym.n pr.lhs)

theorem mem_initialItems {G : Grammar} {B : NT} {it : Item0} (h : it ∈ initialItems G B) :
    it.2 = 0 ∧ ∃ pr, G.prods[it.1]? = some pr ∧ pr.lhs = B := by
  simp only [initialItems, List.mem_filterMap] at h
  obtain ⟨q, _, hq⟩ := h
  cases hp : G.prods[q]? with
  | none => simp [hp] at hq
  | some pr =>
    simp only [hp] at hq
    split at hq
    · rename_i hl
      cases hq
      exact ⟨rfl, pr, hp, hl⟩
    · cases hq

inductive InClosure (G : Grammar) (K : Item0 → Prop) : Item0 → Prop
  | base (i : Item0) : K i → InClosure G K i
  | step (p d q : Nat) (B : NT) (qr : Production) :
      InClosure G K (p, d) → symAt G p d = some (Sym.n B) → G.prods[q]? = some qr → qr.lhs = B →
      InClosure G K (q, 0)

section
variable {G : Grammar}

theorem InClosure.trans {K K' : Item0 → Prop} (hK : ∀ i, K i → InClosure G K' i) {i : Item0}
    (h : InClosure G K i) : InClosure G K' i := by
  induction h with
  | base i hi => exact hK i hi
  | step p d q B qr _ hs hq hl ih => exact .step p d q B qr ih hs hq hl

theorem InClosure.fromClosure {K : Item0 → Prop} {it : Item0} (h : InClosure G K it) :
    K it ∨ FromClosure G it := by
  cases h with
  | base _ hi => exact .inl hi
  | step p d q B qr _ hs hq hl => exact .inr ⟨rfl, qr, p, d, hq, hl ▸ hs⟩

theorem mem_closureRound {items : List Item0} {it : Item0} (h : it ∈ closureRound G items) :
    InClosure G (· ∈ items) it := by
  simp only [closureRound, List.mem_append, List.mem_flatMap] at h
  rcases h with h | ⟨j, hj, h⟩
  · exact .base _ h
  · split at h
    · rename_i B hs
      obtain ⟨h0, pr, hp, hl⟩ := mem_initialItems h
      obtain ⟨q, d⟩ := it
      simp only at h0 hp
      subst h0
      exact .step j.1 j.2 q B pr (.base _ hj) hs hp hl
    · simp at h

theorem mem_closureIter (k : Nat) {items : List Item0} {it : Item0}
    (h : it ∈ closureIter G k items) : InClosure G (· ∈ items) it := by
  induction k generalizing items with
  | zero => exact .base _ h
  | succ k ih =>
    refine (ih h).trans ?_
    intro i hi
    exact mem_closureRound (List.mem_eraseDups.mp hi)

theorem mem_closure0 {K : List Item0} {it : Item0} (h : it ∈ closure0 G K) :
    InClosure G (· ∈ K) it := mem_closureIter _ h

end

theorem mem_advance {G : Grammar} {cores : List Item0} {X : Sym} {it : Item0}
    (h : it ∈ advance G cores X) :
    ∃ d', it.2 = d' + 1 ∧ (it.1, d') ∈ cores ∧ symAt G it.1 d' = some X := by
  simp only [advance, List.mem_filterMap] at h
  obtain ⟨j, hj, h⟩ := h
  split at h
  · rename_i hs
    cases h
    exact ⟨j.2, rfl, hj, hs⟩
  · cases h

structure Sound (G : Grammar) (T : Tables) (A : Automaton) : Prop where
  nTerm_eq : T.nTerm = G.nTerm
  nS_pos : 0 < A.states.length
  eof_len : T.eofAction.length = A.states.length
  prodLen_eq : T.prodLen = G.prods.map (·.rhs.length)
  isStart_len : T.isStart.length = G.prods.length
  fallible_len : T.fallible.length = G.prods.length
  prodLhs_eq : ∀ p pr, G.prods[p]? = some pr → p ≠ G.startProd → T.prodLhs[p]? = some pr.lhs
  prodLhs_len : T.prodLhs.length = G.prods.length
  isStart_eq : ∀ p pr, G.prods[p]? = some pr → T.isStart[p]? = some (p == G.startProd)
  start : ∃ sp S, G.prods[G.startProd]? = some sp ∧ sp.rhs = [Sym.n S]
  start_fresh : ∀ sp, G.prods[G.startProd]? = some sp → ∀ p d, symAt G p d ≠ some (Sym.n sp.lhs)
  rec_nTerm : T.usesRecovery = true → 0 < T.nTerm
  cores0 : ∀ p d, (p, d) ∈ A.coresOf 0 → d = 0
  trans : ∀ s X s', A.trans s X = some s' → s' < A.states.length ∧
    ∀ p d, (p, d) ∈ A.coresOf s' → (d = 0 ∧ p ≠ G.startProd) ∨
      (∃ d', d = d' + 1 ∧ (p, d') ∈ A.coresOf s ∧ symAt G p d' = some X)
  goto_eq : ∀ s B s', A.gotoOf s B = some s' → T.gotoAt s B = s'
  action : ∀ s t, s < A.states.length → t < T.nTerm → ∃ a, T.actionAt s t = some a ∧
    (0 < a → A.shiftOf s t = some (a - 1).toNat) ∧
    (a < 0 → ∃ pr, G.prods[(-(a + 1)).toNat]? = some pr ∧ ((-(a + 1)).toNat, pr.rhs.length) ∈ A.coresOf s)
  eofAction : ∀ s, s < A.states.length → ∃ a, T.eofActionAt s = some a ∧
    (a < 0 → ∃ pr, G.prods[(-(a + 1)).toNat]? = some pr ∧ ((-(a + 1)).toNat, pr.rhs.length) ∈ A.coresOf s)
  gotos : ∀ s p, (p, 0) ∈ A.coresOf s → p ≠ G.startProd →
    ∃ pr s', G.prods[p]? = some pr ∧ A.gotoOf s pr.lhs = some s'

section Extract
variable {G : Grammar} {T : Tables} {A : Automaton}

theorem coresOf_eq {s : Nat} {st : AState} (h : A.states[s]? = some st) : A.coresOf s = st.cores := by
  simp [Automaton.coresOf, h]

theorem coresOf_lt {s : Nat} {it : Item0} (h : it ∈ A.coresOf s) : s < A.states.length := by
  cases hs : A.states[s]? with
  | none => simp [Automaton.coresOf, hs] at h
  | some st => exact getElem?_lt hs

/-- V3a/b read off for one state -/
theorem checkCores_state (hc : checkCores G T A = true) {s : Nat} {st : AState}
    (hst : A.states[s]? = some st) :
    (∀ t s', (t, s') ∈ st.shifts → s' < A.states.length ∧ T.actionAt s t = some ((s' : Int) + 1) ∧
      subsetOf (A.coresOf s') (closure0 G (advance G st.cores (Sym.t t))) = true) ∧
    (∀ B s', (B, s') ∈ st.gotos → s' < A.states.length ∧ T.gotoAt s B = s' ∧
      subsetOf (A.coresOf s') (closure0 G (advance G st.cores (Sym.n B))) = true) ∧
    (∀ t, t < G.nTerm → ∃ a, T.actionAt s t = some a ∧
      (a > 0 → lookupAssoc st.shifts t = some (a - 1).toNat)) := by
  simp only [checkCores, Bool.and_eq_true] at hc
  have h := List.all_eq_true.mp hc.2 s (List.mem_range.mpr (getElem?_lt hst))
  simp only [hst, Bool.and_eq_true, List.all_eq_true] at h
  refine ⟨?_, ?_, ?_⟩
  · intro t s' hm
    have := h.1.1 (t, s') hm
    simp only [decide_eq_true_eq, beq_iff_eq] at this
    exact ⟨this.1.1.1, this.1.2, this.2⟩
  · intro B s' hm
    have := h.1.2 (B, s') hm
    simp only [decide_eq_true_eq, beq_iff_eq] at this
    exact ⟨this.1.1.1, this.1.2, this.2⟩
  · intro t ht
    have := h.2 t (List.mem_range.mpr ht)
    cases ha : T.actionAt s t with
    | none => simp [ha] at this
    | some a =>
      refine ⟨a, rfl, fun hpos => ?_⟩
      simpa [ha, hpos] using this

theorem trans_of_checkCores (hc : checkCores G T A = true)
    (hf : ∀ sp, G.prods[G.startProd]? = some sp → ∀ p d, symAt G p d ≠ some (Sym.n sp.lhs))
    (s : Nat) (X : Sym) (s' : Nat) (ht : A.trans s X = some s') :
    s' < A.states.length ∧ (∀ B, X = Sym.n B → T.gotoAt s B = s') ∧
    ∀ p d, (p, d) ∈ A.coresOf s' → (d = 0 ∧ p ≠ G.startProd) ∨
      (∃ d', d = d' + 1 ∧ (p, d') ∈ A.coresOf s ∧ symAt G p d' = some X) := by
  obtain ⟨st, hst, hlt, hg, hsub⟩ : ∃ st, A.states[s]? = some st ∧ s' < A.states.length ∧
      (∀ B, X = Sym.n B → T.gotoAt s B = s') ∧
      subsetOf (A.coresOf s') (closure0 G (advance G st.cores X)) = true := by
    cases X with
    | t a =>
      simp only [Automaton.trans, Automaton.shiftOf, Option.bind_eq_some_iff] at ht
      obtain ⟨st, hst, hl⟩ := ht
      obtain ⟨h1, _, h3⟩ := (checkCores_state hc hst).1 a s' (lookupAssoc_mem hl)
      exact ⟨st, hst, h1, nofun, h3⟩
    | n B =>
      simp only [Automaton.trans, Automaton.gotoOf, Option.bind_eq_some_iff] at ht
      obtain ⟨st, hst, hl⟩ := ht
      obtain ⟨h1, h2, h3⟩ := (checkCores_state hc hst).2.1 B s' (lookupAssoc_mem hl)
      exact ⟨st, hst, h1, fun B' hB => by cases hB; exact h2, h3⟩
  refine ⟨hlt, hg, ?_⟩
  intro p d hpd
  rcases (mem_closure0 (subsetOf_mem hsub hpd)).fromClosure with h | h
  · right
    obtain ⟨d', h1, h2, h3⟩ := mem_advance h
    exact ⟨d', h1, coresOf_eq hst ▸ h2, h3⟩
  · left
    obtain ⟨h0, pr, q, d', hp, hs⟩ := h
    refine ⟨h0, ?_⟩
    intro he
    simp only at hp
    rw [he] at hp
    exact hf pr hp q d' hs

theorem cores0_of_checkCores (hc : checkCores G T A = true) : ∀ p d, (p, d) ∈ A.coresOf 0 → d = 0 := by
  intro p d h
  simp only [checkCores, Bool.and_eq_true] at hc
  rcases (mem_closure0 (subsetOf_mem hc.1 h)).fromClosure with h | h
  · simp at h; exact h.2
  · exact h.1

/-- V3c read off for one state and lookahead -/
theorem reduces_of_checkReduces (hr : checkReduces G T A = true) {s : Nat} (hs : s < A.states.length)
    {la : LA} (hla : ∀ t, la = some t → t < G.nTerm) :
    ∃ a, actionFor T s la = some a ∧
      (a < 0 → ∃ pr, G.prods[(-(a + 1)).toNat]? = some pr ∧ ((-(a + 1)).toNat, pr.rhs.length) ∈ A.coresOf s) := by
  have h := List.all_eq_true.mp hr s (List.mem_range.mpr hs)
  simp only [Bool.and_eq_true, List.all_eq_true] at h
  have h2 : (match actionFor T s la with
      | some a =>
        if a < 0 then
          match G.prods[(-(a + 1)).toNat]? with
          | some pr => (A.coresOf s).contains ((-(a + 1)).toNat, pr.rhs.length)
          | none => false
        else true
      | none => false) = true := by
    cases la with
    | none => exact h.2
    | some t => exact h.1 t (List.mem_range.mpr (hla t rfl))
  cases ha : actionFor T s la with
  | none => cases ha ▸ h2
  | some a =>
    rw [ha] at h2
    refine ⟨a, rfl, fun hneg => ?_⟩
    simp only [hneg, if_true] at h2
    split at h2
    · rename_i pr hp
      exact ⟨pr, hp, List.contains_iff_mem.mp h2⟩
    · cases h2

theorem gotos_of_checkGotos (hg : checkGotos G A = true) (s p : Nat) (h : (p, 0) ∈ A.coresOf s)
    (hne : p ≠ G.startProd) : ∃ pr s', G.prods[p]? = some pr ∧ A.gotoOf s pr.lhs = some s' := by
  simp only [checkGotos, List.all_eq_true, List.mem_range] at hg
  have := hg s (coresOf_lt h) (p, 0) h
  have hcnd : (((p, 0) : Item0).2 == 0 && ((p, 0) : Item0).1 != G.startProd) = true := by simp [hne]
  rw [if_pos hcnd] at this
  simp only at this
  split at this
  · rename_i pr hp
    obtain ⟨s', hs'⟩ := Option.isSome_iff_exists.mp this
    exact ⟨pr, s', hp, hs'⟩
  · cases this

theorem sound_of_validate (h : validateSound G T A = true) : Sound G T A := by
  simp only [validateSound, Bool.and_eq_true] at h
  obtain ⟨⟨⟨⟨hs, hst⟩, hc⟩, hr⟩, hg⟩ := h
  have H := shape_of_checks hs hst
  have hfresh : ∀ sp, G.prods[G.startProd]? = some sp → ∀ p d, symAt G p d ≠ some (Sym.n sp.lhs) := by
    intro sp hsp p d hsym
    obtain ⟨pr, hp, hd⟩ := Option.bind_eq_some_iff.mp hsym
    exact H.start_fresh sp hsp pr (List.mem_of_getElem? hp) (List.mem_of_getElem? hd)
  exact { H with
    start_fresh := hfresh
    cores0 := cores0_of_checkCores hc
    trans := fun s X s' ht =>
      let ⟨h1, _, h3⟩ := trans_of_checkCores hc hfresh s X s' ht
      ⟨h1, h3⟩
    goto_eq := fun s B s' ht => (trans_of_checkCores hc hfresh s (Sym.n B) s' ht).2.1 B rfl
    action := by
      intro s t hs ht
      rw [H.nTerm_eq] at ht
      obtain ⟨st, hst⟩ : ∃ st, A.states[s]? = some st := ⟨_, List.getElem?_eq_getElem hs⟩
      obtain ⟨a, ha, hsh⟩ := (checkCores_state hc hst).2.2 t ht
      obtain ⟨a', ha', hred⟩ := reduces_of_checkReduces hr hs (la := some t) (fun _ e => by cases e; exact ht)
      rw [show actionFor T s (some t) = T.actionAt s t from rfl, ha] at ha'
      cases ha'
      refine ⟨a, ha, fun hpos => ?_, hred⟩
      rw [Automaton.shiftOf, hst]
      exact hsh hpos
    eofAction := fun s hs => reduces_of_checkReduces hr hs (la := none) nofun
    gotos := gotos_of_checkGotos hg
  }

end Extract

section PathLemmas
variable {G : Grammar} {T : Tables} {A : Automaton}

theorem Path.top_lt (S : Sound G T A) {s : Nat} {ss : List Nat} {Xs : List Sym} (h : Path A (s :: ss) Xs) :
    s < A.states.length := by
  cases h with
  | base => exact S.nS_pos
  | push _ ht => exact (S.trans _ _ _ ht).1

/-- every core item of the top state is valid for the stack -/
theorem Path.itemAt (S : Sound G T A) {st : List Nat} {Xs : List Sym} (h : Path A st Xs) :
    ∀ s ss, st = s :: ss → ∀ p d, (p, d) ∈ A.coresOf s → ItemAt G A p d st Xs := by
  induction h with
  | base =>
    intro s ss he p d hpd
    cases he
    have := S.cores0 p d hpd
    subst this
    simpa [ItemAt] using hpd
  | push h1 ht ih =>
    intro s ss he p d hpd
    cases he
    rcases (S.trans _ _ _ ht).2 p d hpd with ⟨h0, _⟩ | ⟨d', hd, hc, hs⟩
    · subst h0; simpa [ItemAt] using hpd
    · subst hd
      simp only [ItemAt]
      exact ⟨hs, ih _ _ rfl p d' hc⟩

/-- the start item lives in the bottom state only: where the start production (one symbol long) is
    complete, the stack holds that symbol and nothing else -/
theorem Path.start_complete (S : Sound G T A) {s : Nat} {ss : List Nat} {Xs : List Sym} (h : Path A (s :: ss) Xs)
    (hv : ItemAt G A G.startProd 1 (s :: ss) Xs) :
    ∃ b X, ss = [b] ∧ Xs = [X] ∧ symAt G G.startProd 0 = some X := by
  cases h with
  | base => exact hv.elim
  | push h1 _ =>
    obtain ⟨hX, hm⟩ := hv
    cases h1 with
    | base => exact ⟨_, _, rfl, rfl, hX⟩
    | push _ ht =>
      rcases (S.trans _ _ _ ht).2 _ _ hm with ⟨_, hne⟩ | ⟨d', hd, _, _⟩
      · exact absurd rfl hne
      · cases hd

end PathLemmas

end LalrpopModel.LR
