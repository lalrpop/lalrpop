import LalrpopModel.Model.RustLex
/-! Lemmas about the Rust lexer transducer: what it emits over a piece of text from a given mode
(`Runs`), and the pieces `RustWrite` emits that leave it between tokens (`Neutral`). -/
namespace LalrpopModel.RustLex

theorem run_append (m : Mode) (a b : List Char) : run m (a ++ b) = runOut m a ++ run (runMode m a) b := by
  induction a generalizing m with
  | nil => rfl
  | cons c cs ih => simp only [List.cons_append, run, runOut, runMode, ih, List.append_assoc]

theorem runOut_append (m : Mode) (a b : List Char) :
    runOut m (a ++ b) = runOut m a ++ runOut (runMode m a) b := by
  induction a generalizing m with
  | nil => rfl
  | cons c cs ih => simp only [List.cons_append, runOut, runMode, ih, List.append_assoc]

theorem runMode_append (m : Mode) (a b : List Char) : runMode m (a ++ b) = runMode (runMode m a) b := by
  induction a generalizing m with
  | nil => rfl
  | cons c cs ih => simp only [List.cons_append, runMode, ih]

def Runs (m : Mode) (piece : List Char) (toks : List RTok) (m' : Mode) : Prop :=
  runMode m piece = m' ∧ runOut m piece = toks

theorem Runs.nil (m : Mode) : Runs m [] [] m := ⟨rfl, rfl⟩

theorem Runs.cons {m m₁ m' : Mode} {c : Char} {cs : List Char} {ts ts' : List RTok}
    (hc : step m c = (ts, m₁)) (h : Runs m₁ cs ts' m') : Runs m (c :: cs) (ts ++ ts') m' := by
  obtain ⟨rfl, rfl⟩ := h
  constructor
  · show runMode (step m c).2 cs = _
    rw [hc]
  · show (step m c).1 ++ runOut (step m c).2 cs = _
    rw [hc]

theorem Runs.append {m m₁ m₂ : Mode} {a b : List Char} {ta tb : List RTok} (ha : Runs m a ta m₁)
    (hb : Runs m₁ b tb m₂) : Runs m (a ++ b) (ta ++ tb) m₂ := by
  obtain ⟨rfl, rfl⟩ := ha
  obtain ⟨rfl, rfl⟩ := hb
  exact ⟨runMode_append m a b, runOut_append m a b⟩

/-- a piece of text that is lexed to `toks` on its own and leaves the lexer between tokens -/
abbrev Neutral (piece : List Char) (toks : List RTok) : Prop := Runs .normal piece toks .normal

theorem Neutral.nil : Neutral [] [] := Runs.nil _

theorem Neutral.lex {a : List Char} {ta : List RTok} (ha : Neutral a ta) (rest : List Char) :
    lexRust (a ++ rest) = ta ++ lexRust rest := by
  simp only [lexRust, run_append, ha.1, ha.2]

theorem Neutral.lex_all {a : List Char} {ta : List RTok} (ha : Neutral a ta) : lexRust a = ta := by
  have := ha.lex []
  rwa [List.append_nil, show lexRust [] = [] from rfl, List.append_nil] at this

theorem step_normal_word {c : Char} (h : isWordCh c = true) : step .normal c = ([], .word [c]) := by
  have hws : isWs c = false := by
    simp only [isWordCh, Bool.and_eq_true, Bool.not_eq_true'] at h
    exact h.2
  show start c = _
  rw [start, hws, if_neg Bool.false_ne_true, if_pos h]

theorem step_word_word (acc : List Char) {c : Char} (h : isWordCh c = true) :
    step (.word acc) c = ([], .word (c :: acc)) :=
  if_pos h

theorem step_lineComment_other {c : Char} (h : c ≠ '\n') : step .lineComment c = ([], .lineComment) :=
  if_neg (by simpa using h)

theorem step_slash2_other {c : Char} (h1 : c ≠ '/') (h2 : c ≠ '!') (h3 : c ≠ '\n') :
    step .slash2 c = ([], .lineComment) := by
  have e1 : ¬ (c == '/') = true := by simpa using h1
  have e2 : ¬ (c == '!') = true := by simpa using h2
  have e3 : ¬ (c == '\n') = true := by simpa using h3
  exact (if_neg e1).trans ((if_neg e2).trans (if_neg e3))

theorem neutral_spaces (n : Nat) : Neutral (List.replicate n ' ') [] := by
  induction n with
  | zero => exact Neutral.nil
  | succ n ih => exact Runs.cons rfl ih

theorem neutral_newline : Neutral ['\n'] [] := Runs.cons rfl (Runs.nil _)

/-- the body of an ordinary line comment: what follows `//` is not `/` or `!` (doc comments are
    tokens) and contains no newline -/
def plainCommentBody (body : List Char) : Prop :=
  (∀ x ∈ body, x ≠ '\n') ∧ body.head? ≠ some '!' ∧ body.head? ≠ some '/'

theorem lineComment_run (body : List Char) (h : ∀ x ∈ body, x ≠ '\n') :
    Runs .lineComment (body ++ ['\n']) [] .normal := by
  induction body with
  | nil => exact Runs.cons rfl (Runs.nil _)
  | cons c cs ih =>
    exact Runs.cons (step_lineComment_other (h c List.mem_cons_self))
      (ih fun x hx => h x (List.mem_cons_of_mem _ hx))

theorem neutral_lineComment (body : List Char) (h : plainCommentBody body) :
    Neutral ('/' :: '/' :: (body ++ ['\n'])) [] := by
  obtain ⟨hn, hb, hs⟩ := h
  have h1 : step .normal '/' = ([], .slash) := rfl
  have h2 : step .slash '/' = ([], .slash2) := rfl
  refine Runs.cons h1 (Runs.cons h2 ?_)
  cases body with
  | nil => exact Runs.cons rfl (Runs.nil _)
  | cons c cs =>
    exact Runs.cons (step_slash2_other (by simpa using hs) (by simpa using hb) (hn c List.mem_cons_self))
      (lineComment_run cs fun x hx => hn x (List.mem_cons_of_mem _ hx))

/-- a line that is only a comment, possibly indented: `   // …` -/
def isCommentLine (s : List Char) : Prop :=
  ∃ n body, s = List.replicate n ' ' ++ '/' :: '/' :: body ∧ plainCommentBody body

theorem neutral_commentLine (s : List Char) (h : isCommentLine s) : Neutral (s ++ ['\n']) [] := by
  obtain ⟨n, body, rfl, hb⟩ := h
  have := (neutral_spaces n).append (neutral_lineComment body hb)
  simpa using this

theorem word_run (ds acc : List Char) (h : ∀ x ∈ ds, isWordCh x = true) :
    Runs (.word acc) ds [] (.word (ds.reverse ++ acc)) := by
  induction ds generalizing acc with
  | nil => exact Runs.nil _
  | cons d ds ih =>
    have := Runs.cons (step_word_word acc (h d List.mem_cons_self))
      (ih (d :: acc) fun x hx => h x (List.mem_cons_of_mem _ hx))
    simpa using this

theorem neutral_word_comma (w : List Char) (hne : w ≠ []) (h : ∀ x ∈ w, isWordCh x = true) :
    Neutral (w ++ [',']) [.word w, .punct ','] := by
  cases w with
  | nil => exact absurd rfl hne
  | cons d ds =>
    have hw := word_run ds [d] fun x hx => h x (List.mem_cons_of_mem _ hx)
    have := Runs.cons (step_normal_word (h d List.mem_cons_self))
      (hw.append (Runs.cons (c := ',') rfl (Runs.nil _)))
    simpa using this

end LalrpopModel.RustLex
