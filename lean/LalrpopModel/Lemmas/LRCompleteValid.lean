import LalrpopModel.Lemmas.LRValidShape
/-!
LR completeness: the semantic content of `validateComplete G T A ann = true`
(`Valid G T ann`): the LR(1) annotation `ann.items` is closed under closure (with the checked
first/nullable tables), shift and goto over the *tables*, complete items have their reduce entry,
the start item sits in state 0, and the production tables agree with the grammar.
-/
namespace LalrpopModel.LR

/-- what the completeness proof uses of `validateComplete … = true` -/
structure Valid (G : Grammar) (T : Tables) (ann : Ann) : Prop where
  first : checkFirst G ann = true
  start_item : (G.startProd, 0, none) ∈ itemsOf ann 0
  start_prod : ∃ sp S, G.prods[G.startProd]? = some sp ∧ sp.rhs = [Sym.n S]
  start_fresh : ∀ sp, G.prods[G.startProd]? = some sp →
    ∀ (p : Nat) (pr : Production) (d : Nat), G.prods[p]? = some pr → pr.rhs[d]? ≠ some (Sym.n sp.lhs)
  isStart : ∀ (p : Nat) (pr : Production), G.prods[p]? = some pr → T.isStart[p]? = some (p == G.startProd)
  prodLen : ∀ (p : Nat) (pr : Production), G.prods[p]? = some pr → T.prodLen[p]? = some pr.rhs.length
  prodLhs : ∀ (p : Nat) (pr : Production), G.prods[p]? = some pr → p ≠ G.startProd → T.prodLhs[p]? = some pr.lhs
  prodLhs_some : ∀ (p : Nat) (pr : Production), G.prods[p]? = some pr → ∃ B, T.prodLhs[p]? = some B
  fallible : ∀ (p : Nat) (pr : Production), G.prods[p]? = some pr → ∃ b, T.fallible[p]? = some b
  item_prod : ∀ s p d la, (p, d, la) ∈ itemsOf ann s → ∃ pr, G.prods[p]? = some pr
  shift : ∀ s p d la pr a, (p, d, la) ∈ itemsOf ann s → G.prods[p]? = some pr →
    pr.rhs[d]? = some (Sym.t a) →
    ∃ act, T.actionAt s a = some act ∧ act > 0 ∧ (p, d + 1, la) ∈ itemsOf ann (act - 1).toNat
  goto : ∀ s p d la pr B, (p, d, la) ∈ itemsOf ann s → G.prods[p]? = some pr →
    pr.rhs[d]? = some (Sym.n B) → (p, d + 1, la) ∈ itemsOf ann (T.gotoAt s B)
  closure : ∀ s p d la pr B, (p, d, la) ∈ itemsOf ann s → G.prods[p]? = some pr →
    pr.rhs[d]? = some (Sym.n B) → ∀ q qr, G.prods[q]? = some qr → qr.lhs = B →
    ∀ b, b ∈ ann.firstSeq (pr.rhs.drop (d + 1)) la → (q, 0, b) ∈ itemsOf ann s
  reduce : ∀ s p d la pr, (p, d, la) ∈ itemsOf ann s → G.prods[p]? = some pr → pr.rhs[d]? = none →
    d = pr.rhs.length ∧ actionFor T s la = some (-((p : Int) + 1)) ∧ (p = G.startProd → la = none)

section
variable {G : Grammar} {T : Tables} {A : Automaton} {ann : Ann}

theorem valid_of_validateComplete (h : validateComplete G T A ann = true) : Valid G T ann := by
  simp only [validateComplete, Bool.and_eq_true] at h
  obtain ⟨⟨⟨hShape, hStart⟩, hFirst⟩, hItems⟩ := h
  have H := shape_of_checks hShape hStart
  simp only [checkItems, Bool.and_eq_true] at hItems
  obtain ⟨⟨hlen, hstart⟩, hall⟩ := hItems
  -- the clause of `checkItems` for one item of a state
  have item := fun {s p d : Nat} {la : LA} (hit : (p, d, la) ∈ itemsOf ann s) =>
    have hs : s < A.states.length := by
      rw [← beq_iff_eq.mp hlen]
      apply Nat.lt_of_not_le
      intro hle
      rw [itemsOf, List.getD_eq_getElem?_getD, List.getElem?_eq_none hle] at hit
      cases hit
    List.all_eq_true.mp (List.all_eq_true.mp hall s (List.mem_range.mpr hs)) (p, d, la) hit
  refine
    { first := hFirst
      start_item := ?_
      start_prod := H.start
      start_fresh := fun sp hsp p pr d hp hd =>
        H.start_fresh sp hsp pr (List.mem_of_getElem? hp) (List.mem_of_getElem? hd)
      isStart := H.isStart_eq
      prodLen := fun p pr hp => prodLen_get_of H.prodLen_eq hp
      prodLhs := H.prodLhs_eq
      prodLhs_some := fun p pr hp => getElem?_some_of_lt H.prodLhs_len (getElem?_lt hp)
      fallible := fun p pr hp => getElem?_some_of_lt H.fallible_len (getElem?_lt hp)
      item_prod := ?_
      shift := ?_
      goto := ?_
      closure := ?_
      reduce := ?_ }
  · exact List.contains_iff_mem.mp hstart
  · intro s p d la hit
    have := item hit
    cases hp : G.prods[p]? with
    | none => simp [hp] at this
    | some pr => exact ⟨pr, rfl⟩
  · intro s p d la pr a hit hp hd
    have := item hit
    simp only [hp, hd] at this
    cases hact : T.actionAt s a with
    | none => simp [hact] at this
    | some act =>
      simp only [hact, Bool.and_eq_true, decide_eq_true_eq, List.contains_iff_mem] at this
      exact ⟨act, rfl, this.1, this.2⟩
  · intro s p d la pr B hit hp hd
    have := item hit
    simp only [hp, hd, Bool.and_eq_true, List.contains_iff_mem] at this
    exact this.1.1
  · intro s p d la pr B hit hp hd q qr hq hB b hb
    have := item hit
    simp only [hp, hd, Bool.and_eq_true, List.all_eq_true, List.mem_range] at this
    have h2 := this.2 q (getElem?_lt hq)
    simp only [hq, hB, beq_self_eq_true, if_true, List.all_eq_true, List.contains_iff_mem] at h2
    exact h2 b hb
  · intro s p d la pr hit hp hd
    have := item hit
    simp only [hp, hd, Bool.and_eq_true, beq_iff_eq, decide_eq_true_eq] at this
    exact ⟨this.1.1, this.1.2, this.2⟩

end
end LalrpopModel.LR
