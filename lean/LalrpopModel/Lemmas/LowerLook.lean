import LalrpopModel.Model.Lower
/-!
Lemmas for the `@L`/`@R` part of C06: counters of the loops of `emit_inline_action_code` after a
prefix of the symbols (`planFrom_append`, `plan_at`, `tempSpans_at`) and the start/end selection
for an inlined symbol without symbols (`tempSpan_split`).
-/
namespace LalrpopModel.Lower
open LalrpopModel.Inline (InlinedSymbol LocSrc startSrc endSrc Step planFrom plan numFlatArgs)
variable {N T L : Type}

/-- number of `Inlined` entries: the value of `temp_counter` after the symbols -/
def inlCount : List (InlinedSymbol N T) → Nat
  | [] => 0
  | .original _ :: rest => inlCount rest
  | .inlined _ _ :: rest => inlCount rest + 1

theorem numFlatArgs_nil : numFlatArgs ([] : List (InlinedSymbol N T)) = 0 := rfl

theorem numFlatArgs_cons (s : InlinedSymbol N T) (rest : List (InlinedSymbol N T)) :
    numFlatArgs (s :: rest) = s.flat.length + numFlatArgs rest := by
  simp [numFlatArgs]

theorem numFlatArgs_append (a b : List (InlinedSymbol N T)) :
    numFlatArgs (a ++ b) = numFlatArgs a + numFlatArgs b := by
  simp [numFlatArgs]

/-- the counters of the loops over `data.symbols` after a prefix: `arg_counter` has advanced by
    the flat arguments of the prefix, `temp_counter` by its inlined symbols -/
theorem planFrom_append (arg temp : Nat) (pre rest : List (InlinedSymbol N T)) :
    planFrom arg temp (pre ++ rest) =
      planFrom arg temp pre ++ planFrom (arg + numFlatArgs pre) (temp + inlCount pre) rest := by
  induction pre generalizing arg temp with
  | nil => rfl
  | cons s pre ih =>
    cases s with
    | original x =>
      simp only [List.cons_append, planFrom, ih, numFlatArgs_cons]
      rw [Nat.add_assoc]
      rfl
    | inlined a syms =>
      simp only [List.cons_append, planFrom, ih, numFlatArgs_cons]
      rw [Nat.add_assoc, Nat.add_right_comm]
      rfl

theorem planFrom_length (arg temp : Nat) (l : List (InlinedSymbol N T)) :
    (planFrom arg temp l).length = l.length := by
  induction l generalizing arg temp with
  | nil => rfl
  | cons s l ih => cases s <;> simp only [planFrom, List.length_cons, ih]

theorem getElem?_append_of_length {α : Type} (l₁ l₂ : List α) (n : Nat) (h : l₁.length = n) :
    (l₁ ++ l₂)[n]? = l₂.head? := by
  subst h
  rw [List.getElem?_append_right (Nat.le_refl _), Nat.sub_self, List.head?_eq_getElem?]

/-- the step the loops perform for the symbol at position `pre.length` -/
theorem plan_at (pre post : List (InlinedSymbol N T)) (a : Nat) (syms : List (Inline.Symbol N T)) :
    (plan (pre ++ .inlined a syms :: post))[pre.length]? =
      some (.inl (inlCount pre) a (numFlatArgs pre) syms.length) := by
  rw [plan, planFrom_append, getElem?_append_of_length _ _ _ (planFrom_length 0 0 pre), Nat.zero_add,
    Nat.zero_add]
  rfl

theorem startSrc_of_ne (n a len : Nat) (h : len ≠ 0) : startSrc n a len = .argStart a := if_pos h

theorem endSrc_of_ne (n a len : Nat) (h : len ≠ 0) : endSrc n a len = .argEnd (a + len - 1) := if_pos h

theorem startSrc_zero_pos (n b : Nat) (h : 0 < b) : startSrc n b 0 = .argEnd (b - 1) := by
  simp [startSrc, h]

theorem startSrc_zero_zero (n : Nat) :
    startSrc n 0 0 = if n > 0 then .argStart 0 else .lookbehind := by
  simp [startSrc]

theorem endSrc_zero (n b : Nat) :
    endSrc n b 0 = if b < n then .argStart b else if n > 0 then .argEnd (n - 1) else .lookahead := by
  simp [endSrc]

/-- `(__startK, __endK)` of an inlined symbol *without* symbols that sits between the flat
    arguments `before` and `after`: exactly the declarative rule — start = `@R` rule, end = `@L`
    rule -/
theorem tempSpan_split (env : Env L) (before after : List (L × L)) (h : env.args = before ++ after) :
    tempSpan env env.args.length before.length 0 =
      some (declR before after env.lookbehind, declL before after env.lookahead) := by
  rw [tempSpan]
  rcases List.eq_nil_or_concat before with rfl | ⟨init, s, rfl⟩
  · cases after with
    | nil => simp [startSrc_zero_zero, endSrc_zero, evalSrc, declR, declL, h]
    | cons s t => simp [startSrc_zero_zero, endSrc_zero, evalSrc, declR, declL, h]
  · cases after with
    | nil => simp [startSrc_zero_pos, endSrc_zero, evalSrc, declR, declL, h]
    | cons s t => simp [startSrc_zero_pos, endSrc_zero, evalSrc, declR, declL, h]

theorem filterMap_length_planFrom (env : Env L) (numFlat arg temp : Nat) (l : List (InlinedSymbol N T)) :
    ((planFrom arg temp l).filterMap (stepSpan env numFlat)).length = inlCount l := by
  induction l generalizing arg temp with
  | nil => rfl
  | cons s l ih =>
    cases s <;> simp only [planFrom, inlCount, stepSpan, List.filterMap_cons, List.length_cons, ih]

/-- the entry of `tempSpans` that belongs to the inlined symbol at position `pre.length` is
    `spanAt`: `arg_counter` = number of flat arguments before it -/
theorem tempSpans_at (env : Env L) (pre post : List (InlinedSymbol N T)) (a : Nat)
    (syms : List (Inline.Symbol N T)) :
    (tempSpans env (pre ++ .inlined a syms :: post))[inlCount pre]? =
      some (spanAt env pre (.inlined a syms) post) := by
  rw [tempSpans, plan, planFrom_append, List.filterMap_append,
    getElem?_append_of_length _ _ _ (filterMap_length_planFrom env _ 0 0 pre), Nat.zero_add]
  rfl

end LalrpopModel.Lower
