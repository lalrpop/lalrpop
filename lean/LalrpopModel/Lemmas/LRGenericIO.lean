import LalrpopModel.Lemmas.LRGenericBasic
/-!
Stream bookkeeping of the M-LR driver for arbitrary tables: the invariant `IOInv` ties `c.pulled`,
`c.input`, `c.lastLoc`, the lookahead held by the phase and the error held by `error_recovery`
to the original token stream.
-/
namespace LalrpopModel.LR.Generic
open LalrpopModel.LR
variable (T : Tables) (af : Nat) (failAt : Option Nat) (startLoc : Int)

section frames
variable {T failAt startLoc}

theorem ReduceSpec.cont_io {c : Cfg} {p : Nat} {ls : Option Int} {c' : Cfg}
    (h : ReduceSpec T failAt startLoc c p ls (.continue_ c')) :
    c'.input = c.input ∧ c'.pulled = c.pulled ∧ c'.lastLoc = c.lastLoc := by
  cases h; exact ⟨rfl, rfl, rfl⟩

theorem ReduceSpec.fin_io {c : Cfg} {p : Nat} {ls : Option Int} {c' : Cfg} {r : Outcome}
    (h : ReduceSpec T failAt startLoc c p ls (.finished c' r)) :
    c'.input = c.input ∧ c'.pulled = c.pulled ∧ c'.lastLoc = c.lastLoc := by
  cases h <;> exact ⟨rfl, rfl, rfl⟩

theorem ReduceSpec.fin_outcome {c : Cfg} {p : Nat} {ls : Option Int} {c' : Cfg} {r : Outcome}
    (h : ReduceSpec T failAt startLoc c p ls (.finished c' r)) :
    (∃ tag, r = .panic tag) ∨ (∃ e, r = .err (.user e)) ∨ (∃ v, r = .ok v) := by
  cases h with
  | bad tag => exact .inl ⟨tag, rfl⟩
  | fail => exact .inr (.inl ⟨_, rfl⟩)
  | accept => exact .inr (.inr ⟨_, rfl⟩)
  | badStart => exact .inl ⟨_, rfl⟩
  | pushedPanic _ _ _ _ tag => exact .inl ⟨tag, rfl⟩

theorem PushSpec.io {c : Cfg} {la : Option (Tok × Term)} {e : PErr} {dropped : List Tok} {sl top : Nat}
    {fe : Bool} {c' : Cfg} {ph' : Phase} (h : PushSpec T startLoc c la e dropped sl top fe c' ph') :
    c'.input = c.input ∧ c'.pulled = c.pulled ∧ c'.lastLoc = c.lastLoc ∧ c'.acts = c.acts ∧
      c'.trace = c.trace := by
  cases h <;> exact ⟨rfl, rfl, rfl, rfl, rfl⟩

theorem NextSpec.frame {af : Nat} {c c' : Cfg} {nt : NextToken} (h : NextSpec T af c c' nt) :
    c'.acts = c.acts ∧ c'.trace = c.trace ∧ c'.states = c.states ∧ c'.symbols = c.symbols ∧
      c'.pulled = c.pulled + 1 := by
  cases h <;> exact ⟨rfl, rfl, rfl, rfl, rfl⟩

end frames

def toksOf : List Item → List Tok
  | [] => []
  | .tok t :: rest => t :: toksOf rest
  | .err _ :: rest => toksOf rest

@[simp] theorem toksOf_nil : toksOf [] = [] := rfl
@[simp] theorem toksOf_tok (t : Tok) (rest : List Item) : toksOf (.tok t :: rest) = t :: toksOf rest := rfl
@[simp] theorem toksOf_err (e : Nat) (rest : List Item) : toksOf (.err e :: rest) = toksOf rest := rfl

@[simp] theorem toksOf_append (a b : List Item) : toksOf (a ++ b) = toksOf a ++ toksOf b := by
  induction a with
  | nil => rfl
  | cons x a ih => cases x <;> simp [ih]

@[simp] theorem toksOf_map_tok (l : List Tok) : toksOf (l.map Item.tok) = l := by
  induction l with
  | nil => rfl
  | cons x l ih => simp [ih]

/-- `last_location` after the items `items` were pulled -/
def lastR (items : List Item) : Int :=
  match (toksOf items).getLast? with
  | some t => t.r
  | none => startLoc

def AllTok (l : List Item) : Prop := ∀ x ∈ l, ∃ t, x = Item.tok t

/-- phases in which the end of the stream has not been seen -/
def preEof : Phase → Bool
  | .pull | .act _ _ => true
  | .recReduce la _ _ | .recFind la _ _ _ _ => la.isSome
  | _ => false

def atEof : Phase → Bool
  | .eof => true
  | .recReduce la _ _ | .recFind la _ _ _ _ => la.isNone
  | _ => false

/-- the lookahead token a phase holds -/
def phLa : Phase → Option Tok
  | .act la _ => some la
  | .recReduce la _ _ | .recFind la _ _ _ _ => la.map (·.1)
  | _ => none

/-- the error `error_recovery` holds -/
def phErr : Phase → Option PErr
  | .recReduce _ e _ | .recFind _ e _ _ _ => some e
  | _ => none

/-- what is known about an error built by `unrecognized_token_error` once `pulled` items were pulled -/
def ErrOk (input : List Item) (pulled : Nat) : PErr → Prop
  | .unrecognizedToken t _ => ∃ i, i < pulled ∧ input[i]? = some (.tok t)
  | .unrecognizedEof loc _ => pulled = input.length + 1 ∧ loc = lastR startLoc input ∧ AllTok input
  | _ => False

def DoneOk (input : List Item) (pulled : Nat) : Outcome → Prop
  | .err (.unrecognizedToken t ex) => ErrOk startLoc input pulled (.unrecognizedToken t ex) ∧
      (T.usesRecovery = false → 1 ≤ pulled ∧ input[pulled - 1]? = some (.tok t))
  | .err (.unrecognizedEof loc ex) => ErrOk startLoc input pulled (.unrecognizedEof loc ex)
  | _ => True

/-- `input` is the whole stream; `c.pulled` counts the calls of `next()`, the one that found the end
    of the stream included -/
structure IOInv (input : List Item) (c : Cfg) (ph : Phase) : Prop where
  inp : c.input = input.drop c.pulled
  /-- an `Err` item ends the run: while it goes on, only tokens were pulled -/
  alltok : phDone ph = false → AllTok (input.take c.pulled)
  pre : preEof ph = true → c.pulled ≤ input.length
  eof : atEof ph = true → c.pulled = input.length + 1
  le : c.pulled ≤ input.length + 1
  la : ∀ t, phLa ph = some t → 1 ≤ c.pulled ∧ input[c.pulled - 1]? = some (.tok t)
  loc : c.lastLoc = lastR startLoc (input.take c.pulled)
  perr : ∀ e, phErr ph = some e → T.usesRecovery = true ∧ ErrOk startLoc input c.pulled e
  fin : ∀ r, ph = .done r → DoneOk T startLoc input c.pulled r

theorem IOInv.init (input : List Item) : IOInv T startLoc input (init startLoc input) .pull where
  inp := rfl
  alltok := fun _ _ hx => nomatch hx
  pre := fun _ => Nat.zero_le _
  eof := nofun
  le := Nat.zero_le _
  la := fun _ h => nomatch h
  loc := rfl
  perr := fun _ h => nomatch h
  fin := fun _ h => nomatch h

variable {T startLoc}

theorem drop_cons_facts {α : Type} {l : List α} {n : Nat} {x : α} {rest : List α}
    (h : l.drop n = x :: rest) :
    n < l.length ∧ l.take (n + 1) = l.take n ++ [x] ∧ l.drop (n + 1) = rest ∧ l[n]? = some x := by
  have hlt : n < l.length := by
    apply Nat.lt_of_not_le
    intro hle
    rw [List.drop_eq_nil_of_le hle] at h
    cases h
  have hx : l[n]? = some x := by
    rw [← List.head?_drop, h]; rfl
  refine ⟨hlt, ?_, ?_, hx⟩
  · rw [List.take_add_one, hx]; rfl
  · rw [← List.drop_drop, h]; rfl

theorem lastR_append_tok (l : List Item) (t : Tok) : lastR startLoc (l ++ [.tok t]) = t.r := by
  simp [lastR]

theorem lastR_append_err (l : List Item) (e : Nat) : lastR startLoc (l ++ [.err e]) = lastR startLoc l := by
  simp [lastR]

theorem AllTok.append_tok {l : List Item} (h : AllTok l) (t : Tok) : AllTok (l ++ [.tok t]) := by
  intro x hx
  rcases List.mem_append.mp hx with hx | hx
  · exact h x hx
  · exact ⟨t, List.mem_singleton.mp hx⟩

theorem ErrOk.mono {input : List Item} {n m : Nat} {e : PErr} (h : ErrOk startLoc input n e)
    (hnm : n ≤ m) (hm : m ≤ input.length + 1) : ErrOk startLoc input m e := by
  cases e with
  | unrecognizedToken t ex => obtain ⟨i, hi, h⟩ := h; exact ⟨i, Nat.lt_of_lt_of_le hi hnm, h⟩
  | unrecognizedEof loc ex => exact ⟨Nat.le_antisymm hm (h.1 ▸ hnm), h.2⟩
  | extraToken t => exact h
  | user e => exact h

theorem IOInv.of_done {input : List Item} {c : Cfg} {r : Outcome} (inp : c.input = input.drop c.pulled)
    (le : c.pulled ≤ input.length + 1) (loc : c.lastLoc = lastR startLoc (input.take c.pulled))
    (fin : DoneOk T startLoc input c.pulled r) : IOInv T startLoc input c (.done r) :=
  ⟨inp, nofun, nofun, nofun, le, (fun _ h => nomatch h), loc, (fun _ h => nomatch h), fun _ hr => Phase.done.inj hr ▸ fin⟩

/-- rebuild the invariant when only stacks/ghost counters changed and the phase keeps its kind -/
theorem IOInv.frame {input : List Item} {c c' : Cfg} {ph ph' : Phase} (h : IOInv T startLoc input c ph)
    (hio : c'.input = c.input ∧ c'.pulled = c.pulled ∧ c'.lastLoc = c.lastLoc)
    (hdone : phDone ph' = false → phDone ph = false)
    (hpre : preEof ph' = true → preEof ph = true) (heof : atEof ph' = true → atEof ph = true)
    (hla : ∀ t, phLa ph' = some t → phLa ph = some t)
    (hperr : ∀ e, phErr ph' = some e → T.usesRecovery = true ∧ ErrOk startLoc input c.pulled e)
    (hfin : ∀ r, ph' = .done r → DoneOk T startLoc input c.pulled r) :
    IOInv T startLoc input c' ph' := by
  obtain ⟨h1, h2, h3⟩ := hio
  constructor
  · rw [h1, h2]; exact h.inp
  · intro hd; rw [h2]; exact h.alltok (hdone hd)
  · intro hp; rw [h2]; exact h.pre (hpre hp)
  · intro hp; rw [h2]; exact h.eof (heof hp)
  · rw [h2]; exact h.le
  · intro t ht; rw [h2]; exact h.la t (hla t ht)
  · rw [h2, h3]; exact h.loc
  · intro e he; rw [h2]; exact hperr e he
  · intro r hr; rw [h2]; exact hfin r hr

theorem IOInv.rephase {input : List Item} {c c' : Cfg} {ph ph' : Phase} (h : IOInv T startLoc input c ph)
    (hio : c'.input = c.input ∧ c'.pulled = c.pulled ∧ c'.lastLoc = c.lastLoc)
    (hph : phDone ph' = phDone ph ∧ preEof ph' = preEof ph ∧ atEof ph' = atEof ph ∧ phLa ph' = phLa ph)
    (hperr : ∀ e, phErr ph' = some e → T.usesRecovery = true ∧ ErrOk startLoc input c.pulled e)
    (hfin : ∀ r, ph' = .done r → DoneOk T startLoc input c.pulled r) : IOInv T startLoc input c' ph' :=
  h.frame hio (hph.1 ▸ id) (hph.2.1 ▸ id) (hph.2.2.1 ▸ id) (hph.2.2.2 ▸ fun _ => id) hperr hfin

theorem IOInv.done {input : List Item} {c c' : Cfg} {ph : Phase} {r : Outcome}
    (h : IOInv T startLoc input c ph)
    (hio : c'.input = c.input ∧ c'.pulled = c.pulled ∧ c'.lastLoc = c.lastLoc)
    (hfin : DoneOk T startLoc input c.pulled r) : IOInv T startLoc input c' (.done r) :=
  h.frame hio nofun nofun nofun (fun _ h => nomatch h) (fun _ h => nomatch h) (fun _ hr => Phase.done.inj hr ▸ hfin)

theorem IOInv.enter {input : List Item} {c : Cfg} {ph : Phase} {la : Option (Tok × Term)} {fe : Bool}
    (h : IOInv T startLoc input c ph) (hctx : EnterCtx T c ph la fe) (ex : List Term) :
    DoneOk T startLoc input c.pulled (.err (mkErr c la ex)) ∧
    (T.usesRecovery = true → IOInv T startLoc input c (.recReduce la (mkErr c la ex) fe)) := by
  cases ph with
  | act t idx =>
    obtain ⟨rfl, -, -⟩ := hctx
    have hla := h.la t rfl
    have hok : ErrOk startLoc input c.pulled (.unrecognizedToken t ex) :=
      ⟨c.pulled - 1, Nat.sub_lt hla.1 Nat.one_pos, hla.2⟩
    exact ⟨⟨hok, fun _ => hla⟩, fun hrec => h.rephase ⟨rfl, rfl, rfl⟩ ⟨rfl, rfl, rfl, rfl⟩
      (fun _ he => Option.some.inj he ▸ ⟨hrec, hok⟩) (fun _ h => nomatch h)⟩
  | eof =>
    obtain ⟨rfl, -, -⟩ := hctx
    have hp := h.eof rfl
    have ht : input.take c.pulled = input := List.take_of_length_le (hp ▸ Nat.le_succ _)
    have hok : ErrOk startLoc input c.pulled (.unrecognizedEof c.lastLoc ex) :=
      ⟨hp, ht ▸ h.loc, ht ▸ h.alltok rfl⟩
    exact ⟨hok, fun hrec => h.rephase ⟨rfl, rfl, rfl⟩ ⟨rfl, rfl, rfl, rfl⟩
      (fun _ he => Option.some.inj he ▸ ⟨hrec, hok⟩) (fun _ h => nomatch h)⟩
  | _ => exact hctx.elim

/-- the phase after a `next_token`, as far as `IOInv` looks at it -/
inductive NextPh : NextToken → Phase → Prop
  | found (t : Tok) (i : Term) {ph : Phase} (h1 : phDone ph = false) (h2 : preEof ph = true)
      (h3 : atEof ph = false) (h4 : phLa ph = some t) : NextPh (.found t i) ph
  | eof {ph : Phase} (h1 : phDone ph = false) (h2 : preEof ph = false) (h3 : atEof ph = true)
      (h4 : phLa ph = none) : NextPh .eof ph
  | done (r : Outcome) : NextPh (.done r) (.done r)

/-- effect of one `next_token` on the stream bookkeeping -/
theorem IOInv.next {af : Nat} {input : List Item} {c c' : Cfg} {ph ph' : Phase} {nt : NextToken}
    (h : IOInv T startLoc input c ph) (hnd : phDone ph = false) (hpre : preEof ph = true)
    (hn : NextSpec T af c c' nt) (hph' : NextPh nt ph')
    (herr : ∀ e, phErr ph' = some e → phErr ph = some e) : IOInv T startLoc input c' ph' := by
  have hall := h.alltok hnd
  have hp := h.pre hpre
  have hperr : ∀ e, phErr ph' = some e →
      T.usesRecovery = true ∧ ErrOk startLoc input (c.pulled + 1) e := fun e he =>
    ⟨(h.perr e (herr e he)).1, (h.perr e (herr e he)).2.mono (Nat.le_succ _) (Nat.succ_le_succ hp)⟩
  cases hn with
  | eof hi =>
    have hlen : c.pulled = input.length := Nat.le_antisymm hp (List.drop_eq_nil_iff.mp (h.inp ▸ hi))
    have htk : input.take (c.pulled + 1) = input.take c.pulled := by
      rw [List.take_of_length_le (hlen ▸ Nat.le_succ _), List.take_of_length_le (hlen ▸ Nat.le_refl _)]
    cases hph' with
    | eof h1 h2 h3 h4 =>
      refine ⟨?_, fun _ => htk ▸ hall, fun hc => ?_, fun _ => congrArg (· + 1) hlen, Nat.succ_le_succ hp,
        fun t ht => ?_, htk ▸ h.loc, hperr, fun r hr => ?_⟩
      · show c.input = input.drop (c.pulled + 1)
        rw [hi, List.drop_eq_nil_of_le (hlen ▸ Nat.le_succ _)]
      · rw [h2] at hc; cases hc
      · rw [h4] at ht; cases ht
      · rw [hr] at h1; cases h1
  | err e rest hi =>
    obtain ⟨-, h2, h3, -⟩ := drop_cons_facts (h.inp ▸ hi)
    cases hph'
    exact .of_done h3.symm (Nat.succ_le_succ hp) (h.loc.trans (h2 ▸ (lastR_append_err _ e).symm)) trivial
  | found t i rest hi hk =>
    obtain ⟨g1, g2, g3, g4⟩ := drop_cons_facts (h.inp ▸ hi)
    cases hph' with
    | found _ _ h1 h2 h3 h4 =>
      refine ⟨g3.symm, fun _ => g2 ▸ hall.append_tok t, fun _ => g1, fun hc => ?_, Nat.succ_le_succ hp,
        fun t' ht' => ?_, g2 ▸ (lastR_append_tok _ t).symm, hperr, fun r hr => ?_⟩
      · rw [h3] at hc; cases hc
      · rw [h4] at ht'
        exact Option.some.inj ht' ▸ ⟨Nat.succ_pos _, g4⟩
      · rw [hr] at h1; cases h1
  | unrec t rest hi hk ex hex =>
    obtain ⟨-, g2, g3, g4⟩ := drop_cons_facts (h.inp ▸ hi)
    cases hph'
    exact .of_done g3.symm (Nat.succ_le_succ hp) (g2 ▸ (lastR_append_tok _ t).symm)
      ⟨⟨c.pulled, Nat.lt_succ_self _, g4⟩, fun _ => ⟨Nat.succ_pos _, g4⟩⟩
  | panic t rest hi hk tag =>
    obtain ⟨-, g2, g3, -⟩ := drop_cons_facts (h.inp ▸ hi)
    cases hph'
    exact .of_done g3.symm (Nat.succ_le_succ hp) (g2 ▸ (lastR_append_tok _ t).symm) trivial

theorem ReduceSpec.fin_doneOk {failAt : Option Nat} {input : List Item} {n : Nat} {c : Cfg} {p : Nat}
    {ls : Option Int} {c' : Cfg} {r : Outcome}
    (h : ReduceSpec T failAt startLoc c p ls (.finished c' r)) (ph : Phase) :
    DoneOk T startLoc input n (finOutcome ph r) := by
  rcases finOutcome_eq_cases ph r with heq | ⟨la, v, heq, -⟩
  · rw [heq]
    rcases h.fin_outcome with ⟨tag, rfl⟩ | ⟨e, rfl⟩ | ⟨v, rfl⟩ <;> trivial
  · rw [heq]; trivial

theorem IOInv.step {af : Nat} {failAt : Option Nat} {input : List Item} {c c' : Cfg} {ph ph' : Phase}
    (h : IOInv T startLoc input c ph) (hs : Step T af failAt startLoc c ph c' ph') :
    IOInv T startLoc input c' ph' := by
  cases hs with
  | done r => exact h
  | panic _ tag hd => exact h.done ⟨rfl, rfl, rfl⟩ trivial
  | pull _ nt hn =>
    cases nt with
    | found t i => exact h.next rfl rfl hn (.found t i rfl rfl rfl rfl) (fun _ h => nomatch h)
    | eof => exact h.next rfl rfl hn (.eof rfl rfl rfl rfl) (fun _ h => nomatch h)
    | done r => exact h.next rfl rfl hn (.done r) (fun _ h => nomatch h)
  | shift la idx top rest a target hst ha hsh =>
    -- `.pull` holds no lookahead and is no final phase; the rest it shares with `.act`
    exact h.frame ⟨rfl, rfl, rfl⟩ (fun _ => rfl) (fun _ => rfl) nofun (fun _ h => nomatch h) (fun _ h => nomatch h) (fun _ h => nomatch h)
  | redCont _ p ls _ hctx hr => exact h.rephase hr.cont_io ⟨rfl, rfl, rfl, rfl⟩ h.perr h.fin
  | redFin _ p ls _ r hctx hr => exact h.done hr.fin_io (hr.fin_doneOk ph)
  | enterNoRec _ la fe ex hctx hex hrec => exact h.done ⟨rfl, rfl, rfl⟩ (h.enter hctx ex).1
  | enterRec _ la fe ex hctx hex hrec => exact (h.enter hctx ex).2 hrec
  | toFind la e fe top rest a hst ha hnr => exact h.rephase ⟨rfl, rfl, rfl⟩ ⟨rfl, rfl, rfl, rfl⟩ h.perr (fun _ h => nomatch h)
  | push la e dropped sl fe top hf _ _ hp =>
    cases hp with
    | panic tag => exact h.done ⟨rfl, rfl, rfl⟩ trivial
    | ok l r hl hr rs rest hrs a ha es hes =>
      -- `afterPh la fe` holds the lookahead `la` or is final
      rcases la with _ | ⟨t, i⟩
      · exact h.rephase ⟨rfl, rfl, rfl⟩ ⟨rfl, rfl, rfl, rfl⟩ (fun _ h => nomatch h) (fun _ h => nomatch h)
      · cases fe with
        | false => exact h.rephase ⟨rfl, rfl, rfl⟩ ⟨rfl, rfl, rfl, rfl⟩ (fun _ h => nomatch h) (fun _ h => nomatch h)
        | true => exact h.done ⟨rfl, rfl, rfl⟩ trivial
  | giveUp e dropped sl fe hf =>
    refine h.done ⟨rfl, rfl, rfl⟩ ?_
    obtain ⟨hrec, hok⟩ := h.perr e rfl
    cases e with
    | unrecognizedToken t ex => exact ⟨hok, fun hc => nomatch hrec.symm.trans hc⟩
    | unrecognizedEof loc ex => exact hok
    | _ => trivial
  | drop t i e dropped sl fe hf _ nt hn =>
    cases nt with
    | found t' i' => exact h.next rfl rfl hn (.found t' i' rfl rfl rfl rfl) (fun _ => id)
    | eof => exact h.next rfl rfl hn (.eof rfl rfl rfl rfl) (fun _ => id)
    | done r => exact h.next rfl rfl hn (.done r) (fun _ h => nomatch h)

/-- induction over a run from `init`, with `IOInv` at hand in the step case -/
theorem inv_of_run {af : Nat} {failAt : Option Nat} {input : List Item} (I : Cfg → Phase → Prop)
    (h0 : I (init startLoc input) .pull)
    (hstep : ∀ c ph c' ph', IOInv T startLoc input c ph → I c ph →
      Step T af failAt startLoc c ph c' ph' → I c' ph')
    {n : Nat} {c : Cfg} {ph : Phase}
    (h : run T af failAt startLoc n (init startLoc input) .pull = (c, ph)) :
    IOInv T startLoc input c ph ∧ I c ph :=
  reach_inv T af failAt startLoc (fun c ph => IOInv T startLoc input c ph ∧ I c ph)
    (fun c ph hi => ⟨hi.1.step (step_spec T af failAt startLoc c ph),
      hstep c ph _ _ hi.1 hi.2 (step_spec T af failAt startLoc c ph)⟩)
    ⟨IOInv.init T startLoc input, h0⟩ ⟨n, h⟩

theorem ioinv_of_run {af : Nat} {failAt : Option Nat} {input : List Item} {n : Nat} {c : Cfg} {ph : Phase}
    (h : run T af failAt startLoc n (init startLoc input) .pull = (c, ph)) : IOInv T startLoc input c ph :=
  (inv_of_run (fun _ _ => True) trivial (fun _ _ _ _ _ _ _ => trivial) h).1

/-- a step either leaves the stream alone or is exactly one `next_token` (which leaves the stacks
    and the action counter alone) -/
theorem Step.io_cases {af : Nat} {failAt : Option Nat} {c c' : Cfg} {ph ph' : Phase}
    (hs : Step T af failAt startLoc c ph c' ph') :
    (c'.input = c.input ∧ c'.pulled = c.pulled ∧ c'.lastLoc = c.lastLoc) ∨
    (c'.acts = c.acts ∧ c'.trace = c.trace ∧ c'.states = c.states ∧ c'.symbols = c.symbols ∧
      ∃ nt, NextSpec T af c c' nt ∧
        ((ph = .pull ∧ ph' = pullK nt) ∨
         ∃ t i e d sl fe, ph = .recFind (some (t, i)) e d sl fe ∧ ph' = dropK e (d ++ [t]) sl fe nt)) := by
  cases hs with
  | pull _ nt hn =>
    exact .inr ⟨hn.frame.1, hn.frame.2.1, hn.frame.2.2.1, hn.frame.2.2.2.1, nt, hn, .inl ⟨rfl, rfl⟩⟩
  | drop t i e dropped sl fe hf _ nt hn =>
    exact .inr ⟨hn.frame.1, hn.frame.2.1, hn.frame.2.2.1, hn.frame.2.2.2.1, nt, hn,
      .inr ⟨t, i, e, dropped, sl, fe, rfl, rfl⟩⟩
  | redCont _ p ls _ hctx hr => exact .inl hr.cont_io
  | redFin _ p ls _ r hctx hr => exact .inl hr.fin_io
  | push la e dropped sl fe top hf _ _ hp => exact .inl ⟨hp.io.1, hp.io.2.1, hp.io.2.2.1⟩
  | _ => exact .inl ⟨rfl, rfl, rfl⟩

end LalrpopModel.LR.Generic
