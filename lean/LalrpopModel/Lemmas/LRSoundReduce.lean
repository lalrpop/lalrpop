import LalrpopModel.Lemmas.LRSoundValid
import LalrpopModel.Lemmas.LRDriver
import LalrpopModel.Lemmas.LRGenericBasic
/-!
Soundness of the model driver: `accepts` and `expected` never panic
(other than running out of fuel) on a stack that is a path of the automaton, and `reduce` by a
complete item of the top state preserves the stack invariant / accepts with a well-formed tree.
-/
namespace LalrpopModel.LR
variable {G : Grammar} {T : Tables} {A : Automaton}

theorem prodLen_get (S : Sound G T A) {p : Nat} {pr : Production} (hp : G.prods[p]? = some pr) :
    T.prodLen[p]? = some pr.rhs.length :=
  prodLen_get_of S.prodLen_eq hp

theorem prodLhs_some (S : Sound G T A) {p : Nat} {pr : Production} (hp : G.prods[p]? = some pr) :
    ∃ B, T.prodLhs[p]? = some B :=
  getElem?_some_of_lt S.prodLhs_len (getElem?_lt hp)

theorem Sound.actionFor (S : Sound G T A) {s : Nat} (hs : s < A.states.length) {la : LA}
    (hla : ∀ i, la = some i → i < T.nTerm) :
    ∃ a, actionFor T s la = some a ∧ (a < 0 → ∃ pr, G.prods[(-(a + 1)).toNat]? = some pr ∧
      ((-(a + 1)).toNat, pr.rhs.length) ∈ A.coresOf s) := by
  cases la with
  | none => exact S.eofAction s hs
  | some i =>
    obtain ⟨a, h1, _, h3⟩ := S.action s i hs (hla i rfl)
    exact ⟨a, h1, h3⟩

/-- a reduction by a complete item of the top state pops to a state with a goto on the lhs -/
theorem Path.reduce_goto (S : Sound G T A) {top : Nat} {rest : List Nat} {Xs : List Sym}
    (h : Path A (top :: rest) Xs) {p : Nat} {pr : Production} (hp : G.prods[p]? = some pr)
    (hit : (p, pr.rhs.length) ∈ A.coresOf top) (hne : p ≠ G.startProd) :
    ∃ below more, (top :: rest).drop pr.rhs.length = below :: more ∧
      Path A (T.gotoAt below pr.lhs :: below :: more) (Sym.n pr.lhs :: Xs.drop pr.rhs.length) := by
  have hv := h.itemAt S _ _ rfl p _ hit
  obtain ⟨below, more, hd, hm⟩ := ItemAt.drop _ hv
  obtain ⟨pr', s', hp', hg⟩ := S.gotos below p hm hne
  cases hp.symm.trans hp'
  refine ⟨below, more, hd, ?_⟩
  rw [S.goto_eq _ _ _ hg]
  exact Path.push (Path.drop _ h hd) hg

theorem accepts_no_panic (S : Sound G T A) : ∀ (af : Nat) (states : List Nat) (Xs : List Sym) (optIdx : Option Term),
    Path A states Xs → (∀ i, optIdx = some i → i < T.nTerm) →
    ∀ tag, accepts T af states optIdx = .error tag → tag = .outOfFuel
  | 0, _, _, _, _, _, tag, h => by cases h; rfl
  | af + 1, [], _, _, hp, _, _, _ => absurd rfl hp.ne_nil
  | af + 1, top :: rest, Xs, optIdx, hp, hi, tag, h => by
    obtain ⟨a, ha, hred⟩ := S.actionFor (hp.top_lt S) hi
    by_cases h0 : a = 0
    · rw [accepts_zero T rest af (h0 ▸ ha)] at h
      cases h
    cases hpa : asReduce a with
    | none =>
      rw [accepts_shift T rest af ha h0 hpa] at h
      cases h
    | some p =>
      obtain ⟨hneg, hpe⟩ := asReduce_some hpa
      obtain ⟨pr, hpr, hit⟩ := hred hneg
      rw [← hpe] at hpr hit
      by_cases hne : p = G.startProd
      · obtain ⟨B, hB⟩ := prodLhs_some S hpr
        rw [accepts_start T rest af ha hpa (prodLen_get S hpr) hB (beq_iff_eq.mpr hne ▸ S.isStart_eq p pr hpr)] at h
        cases h
      · obtain ⟨below, more, hd, hpath⟩ := hp.reduce_goto S hpr hit hne
        rw [accepts_reduce T af ha hpa (prodLen_get S hpr) (S.prodLhs_eq p pr hpr hne)
          (beq_false_of_ne hne ▸ S.isStart_eq p pr hpr) hd] at h
        exact accepts_no_panic S af _ _ optIdx hpath hi tag h

theorem expected_no_panic (S : Sound G T A) {states : List Nat} {Xs : List Sym} (hp : Path A states Xs)
    {af : Nat} {e : PanicTag} (h : expected T af states = .error e) : e = .outOfFuel := by
  obtain ⟨j, hj, hacc⟩ := expected_error T h
  exact accepts_no_panic S af _ _ (some j) hp (fun i hi => Option.some.inj hi ▸ hj) _ hacc

/-- the stack part of the invariant -/
def StackInv (G : Grammar) (T : Tables) (A : Automaton) (c : Cfg) : Prop :=
  ∃ Xs, Path A c.states Xs ∧ TreesOK G (errT T) c.symbols Xs

theorem reduce_stackInv (S : Sound G T A) (failAt : Option Nat) (startLoc : Int) (c : Cfg) (p : Nat)
    (pr : Production) (la : Option Int) {top : Nat} {rest : List Nat} {Xs : List Sym}
    (hst : c.states = top :: rest) (hpath : Path A c.states Xs) (htrees : TreesOK G (errT T) c.symbols Xs)
    (hp : G.prods[p]? = some pr) (hit : (p, pr.rhs.length) ∈ A.coresOf top) :
    match reduce T failAt startLoc c p la with
    | .continue_ c' => StackInv G T A c' ∧ c'.input = c.input ∧ stackYield c'.symbols = stackYield c.symbols
    | .finished c' (.ok v) => Tree.WF G (errT T) v ∧
        (∀ S0, G.startSym = some S0 → v.root G (errT T) = some (Sym.n S0)) ∧
        c'.input = c.input ∧ c'.symbols = [] ∧ v.yield = stackYield c.symbols
    | .finished _ (.err _) => True
    | .finished _ (.panic _) => False := by
  obtain ⟨cs, csy, ci, cl, cp, ca, ct⟩ := c
  simp only at hst hpath htrees ⊢
  subst hst
  obtain ⟨fal, hfal⟩ := getElem?_some_of_lt S.fallible_len (getElem?_lt hp)
  obtain ⟨B, hB⟩ := prodLhs_some S hp
  have hv := hpath.itemAt S _ _ rfl p _ hit
  obtain ⟨hle, _, hforest⟩ := ItemAt.forest (e := errT T) hp _ hv htrees
  rw [List.take_length] at hforest
  rw [Generic.reduce_of_lookups T failAt startLoc ⟨top :: rest, csy, ci, cl, cp, ca, ct⟩ p la (prodLen_get S hp) hB
    (S.isStart_eq p pr hp) hfal, Generic.reduceWith, if_neg (Nat.not_lt.mpr hle)]
  by_cases hfail : (fal && failAt == some ca) = true
  · rw [if_pos hfail]
    trivial
  · rw [if_neg hfail]
    by_cases hsp : p = G.startProd
    · subst hsp
      rw [if_pos (beq_self_eq_true _)]
      obtain ⟨sp, S0, hsp0, hr⟩ := S.start
      rw [hp] at hsp0
      cases hsp0
      have hn : pr.rhs.length = 1 := by rw [hr]; rfl
      rw [hn] at hv ⊢
      obtain ⟨b, X, rfl, rfl, hX⟩ := hpath.start_complete S hv
      cases htrees with
      | cons hw hroot htl =>
        cases htl
        refine ⟨hw, ?_, rfl, rfl, (List.nil_append _).symm⟩
        intro S1 hS1
        rw [startSym_eq hp hr] at hS1
        cases hS1
        rw [hroot, ← hX, symAt, hp, Option.bind_some, hr]
        rfl
    · rw [if_neg (mt beq_iff_eq.mp hsp)]
      obtain ⟨below, more, hd, hpath'⟩ := hpath.reduce_goto S hp hit hsp
      have hB' := S.prodLhs_eq p pr hp hsp
      cases hB.symm.trans hB'
      simp only [not_length_lt_of_drop hd, if_false, hd, Generic.pushCfg, Generic.popCfg, Generic.reduceSym]
      refine ⟨⟨_, hpath', ?_⟩, trivial, ?_⟩
      · refine TreesOK.cons ?_ ?_ (TreesOK.drop _ htrees)
        · exact Tree.WF.node p _ _ pr _ hp hforest
        · simp [Tree.root, hp]
      · simp only [stackYield, Tree.yield]
        rw [yield_ofList_reverse]
        exact (stackYield_take_drop _ _).symm
end LalrpopModel.LR
