import LalrpopModel.Model.Nfa
import LalrpopModel.Lemmas.Except
/-!
The accessors and acceptance at a state whose record is known, and `Frame n n'`: a builder only appends `Neither`
states to `n` and leaves the old ones alone, which `newState` and pushing edges onto states beyond `n` preserve.
-/
namespace LalrpopModel.Nfa
open LalrpopModel.Re

theorem kindOf_of {N : Nfa} {q : Nat} {st : NState} (h : N[q]? = some st) : kindOf N q = st.kind := by
  simp [kindOf, h]
theorem noopOf_of {N : Nfa} {q : Nat} {st : NState} (h : N[q]? = some st) : noopOf N q = st.noop := by
  simp [noopOf, h]
theorem testOf_of {N : Nfa} {q : Nat} {st : NState} (h : N[q]? = some st) : testOf N q = st.test := by
  simp [testOf, h]
theorem otherOf_of {N : Nfa} {q : Nat} {st : NState} (h : N[q]? = some st) : otherOf N q = st.other := by
  simp [otherOf, h]

theorem stepChar_some {N : Nfa} {q : Nat} {st : NState} (h : N[q]? = some st) (c : Nat)
    {e : Nat × Nat × Nat} (he : st.test.find? (fun e => e.1 ≤ c && c ≤ e.2.1) = some e) :
    stepChar N q c = some e.2.2 := by
  simp [stepChar, testOf_of h, he]

theorem stepChar_none {N : Nfa} {q : Nat} {st : NState} (h : N[q]? = some st) (c : Nat)
    (he : st.test.find? (fun e => e.1 ≤ c && c ≤ e.2.1) = none) :
    stepChar N q c = st.other.head? := by
  simp [stepChar, testOf_of h, otherOf_of h, he]

theorem ReachN.mono {N : Nfa} {k k' s : Nat} {w : List Nat} (h : ReachN N k s w) (hk : k ≤ k') :
    ReachN N k' s w := by
  induction h generalizing k' with
  | acc k s hs => exact .acc k' s hs
  | eps k s u w hu _ ih =>
    cases k' with
    | zero => exact absurd hk (Nat.not_succ_le_zero k)
    | succ j => exact .eps j s u w hu (ih (Nat.le_of_succ_le_succ hk))
  | chr k s u c w hu _ ih =>
    cases k' with
    | zero => exact absurd hk (Nat.not_succ_le_zero k)
    | succ j => exact .chr j s u c w hu (ih (Nat.le_of_succ_le_succ hk))

theorem Acc.eps {N : Nfa} {s u : Nat} {w : List Nat} (hu : u ∈ noopOf N s) (h : Acc N u w) : Acc N s w := by
  obtain ⟨k, hk⟩ := h
  exact ⟨k + 1, .eps k s u w hu hk⟩

theorem Acc.chr {N : Nfa} {s u c : Nat} {w : List Nat} (hu : stepChar N s c = some u) (h : Acc N u w) :
    Acc N s (c :: w) := by
  obtain ⟨k, hk⟩ := h
  exact ⟨k + 1, .chr k s u c w hu hk⟩

theorem reach_noop_state {N : Nfa} {q : Nat} {ts : List Nat}
    (h : N[q]? = some { kind := .neither, noop := ts }) {k : Nat} {w : List Nat} (hr : ReachN N k q w) :
    ∃ k' u, k = k' + 1 ∧ u ∈ ts ∧ ReachN N k' u w := by
  cases hr with
  | acc k s hs => rw [kindOf_of h] at hs; cases hs
  | eps k s u w hu hr => exact ⟨k, u, rfl, by rwa [noopOf_of h] at hu, hr⟩
  | chr k s u c w hu hr => rw [stepChar_none h c rfl] at hu; cases hu

theorem Acc.noop {N : Nfa} {q u : Nat} {ts : List Nat} (h : N[q]? = some { kind := .neither, noop := ts })
    (hu : u ∈ ts) {w : List Nat} (ha : Acc N u w) : Acc N q w :=
  Acc.eps (by rw [noopOf_of h]; exact hu) ha

theorem reach_test_state {N : Nfa} {q : Nat} {st : NState} (h : N[q]? = some st)
    (hk : st.kind ≠ .accept) (hn : st.noop = []) {k : Nat} {w : List Nat}
    (hr : ReachN N k q w) :
    ∃ k' c w' u, k = k' + 1 ∧ w = c :: w' ∧ stepChar N q c = some u ∧ ReachN N k' u w' := by
  cases hr with
  | acc k s hs => rw [kindOf_of h] at hs; exact absurd hs hk
  | eps k s u w hu hr => rw [noopOf_of h, hn] at hu; cases hu
  | chr k s u c w hu hr => exact ⟨k, c, w, u, rfl, rfl, hu, hr⟩

/-- `n'` extends `n`: old states untouched, new states are `Neither` -/
structure Frame (n n' : Nfa) : Prop where
  len : n.length ≤ n'.length
  old : ∀ q, q < n.length → n'[q]? = n[q]?
  kinds : ∀ q, n.length ≤ q → q < n'.length → kindOf n' q = .neither

theorem kindOf_congr {n n' : Nfa} {q : Nat} (h : n'[q]? = n[q]?) : kindOf n' q = kindOf n q := by
  unfold kindOf
  rw [h]

theorem Frame.refl (n : Nfa) : Frame n n :=
  ⟨Nat.le_refl _, fun _ _ => rfl, fun _ h1 h2 => absurd h2 (Nat.not_lt_of_ge h1)⟩

theorem Frame.trans {a b c : Nfa} (h1 : Frame a b) (h2 : Frame b c) : Frame a c := by
  refine ⟨Nat.le_trans h1.len h2.len, fun q hq => ?_, fun q hq hq' => ?_⟩
  · rw [h2.old q (Nat.lt_of_lt_of_le hq h1.len), h1.old q hq]
  · by_cases hb : q < b.length
    · exact (kindOf_congr (h2.old q hb)).trans (h1.kinds q hq hb)
    · exact h2.kinds q (Nat.le_of_not_lt hb) hq'

theorem Frame.kindOf_eq {n n' : Nfa} (h : Frame n n') (q : Nat) :
    kindOf n' q = if q < n.length then kindOf n q else .neither := by
  split
  · rename_i hq
    exact kindOf_congr (h.old q hq)
  · rename_i hq
    by_cases hq' : q < n'.length
    · exact h.kinds q (Nat.le_of_not_lt hq) hq'
    · unfold kindOf
      rw [List.getElem?_eq_none (Nat.le_of_not_lt hq')]
      rfl

theorem newState_fst (n : Nfa) : (newState n).1 = n.length := rfl
theorem newState_snd (n : Nfa) : (newState n).2 = n ++ [{ kind := .neither }] := rfl

theorem getElem?_newState_old (n : Nfa) (q : Nat) (hq : q < n.length) : (newState n).2[q]? = n[q]? :=
  List.getElem?_append_left hq

theorem getElem?_newState_new (n : Nfa) : (newState n).2[n.length]? = some { kind := .neither } :=
  List.getElem?_concat_length

theorem length_newState (n : Nfa) : (newState n).2.length = n.length + 1 := List.length_append

theorem Frame.newState (n : Nfa) : Frame n (newState n).2 := by
  refine ⟨by rw [length_newState]; exact Nat.le_succ _, getElem?_newState_old n, fun q h1 h2 => ?_⟩
  rw [length_newState] at h2
  rw [Nat.le_antisymm (Nat.le_of_lt_succ h2) h1]
  unfold kindOf
  rw [getElem?_newState_new]
  rfl


theorem getElem?_modify' (n : Nfa) (s q : Nat) (f : NState → NState) :
    (n.modify s f)[q]? = if s = q then (n[q]?).map f else n[q]? := by
  rw [List.getElem?_modify]
  by_cases h : s = q
  · simp only [h, if_true]
    rfl
  · simp only [h, if_false]
    exact id_map _

theorem getElem?_pushNoop (n : Nfa) (s t q : Nat) :
    (pushNoop n s t)[q]? = if s = q then (n[q]?).map (fun st => { st with noop := st.noop ++ [t] }) else n[q]? :=
  getElem?_modify' n s q _
theorem getElem?_pushTest (n : Nfa) (s lo hi t q : Nat) :
    (pushTest n s lo hi t)[q]? =
      if s = q then (n[q]?).map (fun st => { st with test := st.test ++ [(lo, hi, t)] }) else n[q]? :=
  getElem?_modify' n s q _
theorem getElem?_pushOther (n : Nfa) (s t q : Nat) :
    (pushOther n s t)[q]? = if s = q then (n[q]?).map (fun st => { st with other := st.other ++ [t] }) else n[q]? :=
  getElem?_modify' n s q _

theorem length_pushNoop (n : Nfa) (s t : Nat) : (pushNoop n s t).length = n.length := List.length_modify ..
theorem length_pushTest (n : Nfa) (s lo hi t : Nat) : (pushTest n s lo hi t).length = n.length :=
  List.length_modify ..
theorem length_pushOther (n : Nfa) (s t : Nat) : (pushOther n s t).length = n.length := List.length_modify ..

theorem kindOf_modify (n : Nfa) (s : Nat) {f : NState → NState} (hf : ∀ st, (f st).kind = st.kind) (q : Nat) :
    kindOf (n.modify s f) q = kindOf n q := by
  unfold kindOf
  rw [getElem?_modify']
  split
  · rw [Option.map_map]
    exact congrArg (fun g => (Option.map g n[q]?).getD Kind.neither) (funext hf)
  · rfl

theorem kindOf_pushNoop (n : Nfa) (s t q : Nat) : kindOf (pushNoop n s t) q = kindOf n q :=
  kindOf_modify n s (f := fun st => { st with noop := st.noop ++ [t] }) (fun _ => rfl) q

theorem Frame.modify {n n' : Nfa} (h : Frame n n') (s : Nat) (hs : n.length ≤ s) (f : NState → NState)
    (hf : ∀ st, (f st).kind = st.kind) : Frame n (n'.modify s f) := by
  refine ⟨by rw [List.length_modify]; exact h.len, fun q hq => ?_, fun q h1 h2 => ?_⟩
  · rw [getElem?_modify', if_neg (Nat.ne_of_gt (Nat.lt_of_lt_of_le hq hs)), h.old q hq]
  · rw [List.length_modify] at h2
    rw [kindOf_modify n' s hf]
    exact h.kinds q h1 h2

theorem Frame.pushOther {n n' : Nfa} (h : Frame n n') (s t : Nat) (hs : n.length ≤ s) :
    Frame n (pushOther n' s t) := h.modify s hs _ (fun _ => rfl)

end LalrpopModel.Nfa
