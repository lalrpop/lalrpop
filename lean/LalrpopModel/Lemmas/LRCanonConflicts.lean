import LalrpopModel.Model.LR.Canon
/-!
M-CANON lemmas: token sets and the model of `TokenSet::conflicts`.

`conflicts_nil_iff`: the conflict list of a state is empty iff the state is `Deterministic`
(every token has at most one action among its shift and its reductions).
-/
namespace LalrpopModel.LR.Canon

open LalrpopModel.LR

theorem tsContains_iff (s : TokenSet) (x : Nat) : tsContains s x = true ↔ x ∈ s := by
  simp [tsContains]

theorem tsContains_false_iff (s : TokenSet) (x : Nat) : tsContains s x = false ↔ x ∉ s := by
  simp [tsContains]

theorem tsDisjoint_iff (a b : TokenSet) : tsDisjoint a b = true ↔ ∀ x, x ∈ a → x ∉ b := by
  simp only [tsDisjoint, List.all_eq_true, Bool.not_eq_true', tsContains_false_iff]

theorem mem_tsInsert {x z : Nat} {s : TokenSet} : z ∈ tsInsert x s ↔ z = x ∨ z ∈ s := by
  induction s with
  | nil => simp [tsInsert]
  | cons y ys ih =>
    rw [tsInsert]
    split
    · exact List.mem_cons
    · split
      · rename_i h
        rw [h, List.mem_cons, or_self_left]
      · rw [List.mem_cons, ih, List.mem_cons]
        exact or_left_comm

/-- `union_with` is set union -/
theorem mem_tsUnion {z : Nat} {a b : TokenSet} : z ∈ tsUnion a b ↔ z ∈ a ∨ z ∈ b := by
  induction b generalizing a with
  | nil => simp [tsUnion]
  | cons y ys ih =>
    show z ∈ tsUnion (tsInsert y a) ys ↔ _
    rw [ih, mem_tsInsert, List.mem_cons]
    exact or_assoc.trans or_left_comm

theorem mem_tsInter {z : Nat} {a b : TokenSet} : z ∈ tsInter a b ↔ z ∈ a ∧ z ∈ b := by
  simp [tsInter, tsContains]

/-! ### the two loops of `TokenSet::conflicts` -/

theorem srConflicts_nil_iff (st : State) :
    srConflicts st = [] ↔ ∀ sh ∈ st.shifts, ∀ r ∈ st.reductions, sh.1 ∉ r.1 := by
  simp only [srConflicts, List.flatMap_eq_nil_iff, List.map_eq_nil_iff, List.filter_eq_nil_iff,
    tsContains_iff]

theorem rrConflicts_nil_iff (index : Nat) (rs : List (TokenSet × Nat)) :
    rrConflicts index rs = [] ↔ rs.Pairwise (fun a b => ∀ x, x ∈ a.1 → x ∉ b.1) := by
  induction rs with
  | nil => simp [rrConflicts]
  | cons r rest ih =>
    simp only [rrConflicts, List.append_eq_nil_iff, List.filterMap_eq_nil_iff, List.pairwise_cons, ih,
      ← tsDisjoint_iff]
    refine and_congr_left' (forall₂_congr fun r' _ => ?_)
    by_cases hd : tsDisjoint r.1 r'.1 = true <;> simp [hd]

theorem lookupAssoc_isSome_iff {α : Type} (l : List (Nat × α)) (k : Nat) :
    (lookupAssoc l k).isSome = true ↔ ∃ e ∈ l, e.1 = k := by
  simp only [lookupAssoc, Option.isSome_map, List.find?_isSome, beq_iff_eq]

theorem pairwise_disjoint_iff (rs : List (TokenSet × Nat)) :
    rs.Pairwise (fun a b => ∀ x, x ∈ a.1 → x ∉ b.1) ↔
      ∀ tok, (rs.filter fun r => tsContains r.1 tok).length ≤ 1 := by
  induction rs with
  | nil => simp
  | cons r rest ih =>
    rw [List.pairwise_cons, ih]
    constructor
    · rintro ⟨h1, h2⟩ tok
      rw [List.filter_cons]
      split
      · rename_i hc
        rw [List.filter_eq_nil_iff.2 fun r' hr' hc' =>
          h1 r' hr' tok ((tsContains_iff _ _).1 hc) ((tsContains_iff _ _).1 hc')]
        exact Nat.le_refl 1
      · exact h2 tok
    · intro h
      refine ⟨fun r' hr' x hx hx' => ?_,
        fun tok => Nat.le_trans ((List.sublist_cons_self r rest).filter _).length_le (h tok)⟩
      have h1 := h x
      rw [List.filter_cons, if_pos ((tsContains_iff _ _).2 hx), List.length_cons] at h1
      have hm : r' ∈ rest.filter fun r => tsContains r.1 x :=
        List.mem_filter.2 ⟨hr', (tsContains_iff _ _).2 hx'⟩
      have := List.length_pos_of_mem hm
      omega

theorem actionsOn_length (st : State) (tok : Nat) :
    (actionsOn st tok).length =
      (if (lookupAssoc st.shifts tok).isSome then 1 else 0) +
      (st.reductions.filter fun r => tsContains r.1 tok).length := by
  rw [actionsOn, List.length_append, List.length_map]
  cases lookupAssoc st.shifts tok <;> rfl

theorem deterministic_iff (st : State) :
    Deterministic st ↔
      (∀ sh ∈ st.shifts, ∀ r ∈ st.reductions, sh.1 ∉ r.1) ∧
      st.reductions.Pairwise (fun a b => ∀ x, x ∈ a.1 → x ∉ b.1) := by
  rw [pairwise_disjoint_iff]
  simp only [Deterministic, actionsOn_length]
  constructor
  · intro hd
    refine ⟨fun sh hsh r hr hx => ?_, fun tok => Nat.le_trans (Nat.le_add_left _ _) (hd tok)⟩
    have h1 := hd sh.1
    rw [if_pos ((lookupAssoc_isSome_iff _ _).2 ⟨sh, hsh, rfl⟩)] at h1
    have hm : r ∈ st.reductions.filter fun r => tsContains r.1 sh.1 :=
      List.mem_filter.2 ⟨hr, (tsContains_iff _ _).2 hx⟩
    have := List.length_pos_of_mem hm
    omega
  · rintro ⟨hsr, hrr⟩ tok
    split
    · rename_i hs
      obtain ⟨sh, hsh, rfl⟩ := (lookupAssoc_isSome_iff _ _).1 hs
      rw [List.filter_eq_nil_iff.2 fun r hr hc => hsr sh hsh r hr ((tsContains_iff _ _).1 hc)]
      exact Nat.le_refl 1
    · rw [Nat.zero_add]
      exact hrr tok

theorem conflicts_nil_iff (st : State) : conflicts st = [] ↔ Deterministic st := by
  rw [deterministic_iff, conflicts, List.append_eq_nil_iff, srConflicts_nil_iff, rrConflicts_nil_iff]

theorem flatMap_conflicts_nil_iff (sts : List State) :
    sts.flatMap conflicts = [] ↔ ∀ st ∈ sts, Deterministic st := by
  simp only [List.flatMap_eq_nil_iff, conflicts_nil_iff]

/-- both `lr1Verdict` and `lalrVerdict` end in this test -/
theorem accept_iff_deterministic {b : Built} (h : b.conflicts = b.states.flatMap conflicts)
    (sts : List State) :
    (if b.conflicts.isEmpty then Verdict.accept b.states else Verdict.conflict b) = .accept sts ↔
      b.states = sts ∧ ∀ st ∈ sts, Deterministic st := by
  have hc : b.conflicts.isEmpty = true ↔ ∀ st ∈ b.states, Deterministic st := by
    rw [List.isEmpty_iff, h, flatMap_conflicts_nil_iff]
  split
  · rename_i hd
    rw [Verdict.accept.injEq]
    exact ⟨fun e => ⟨e, e ▸ hc.1 hd⟩, fun e => e.1⟩
  · rename_i hd
    simp only [reduceCtorEq, false_iff]
    rintro ⟨e, hs⟩
    exact hd (hc.2 (e ▸ hs))

end LalrpopModel.LR.Canon
