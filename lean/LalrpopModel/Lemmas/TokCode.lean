import LalrpopModel.Lemmas.TokLit
import LalrpopModel.Lemmas.TokComment
/-! Specification of well-formed Rust snippets (as the code scanner needs to see them) and the proof
    that `Tokenizer::code` ends exactly at the top-level terminator. -/
namespace LalrpopModel.Tok

/-- The Rust lexical items that matter to a delimiter-balancing scan, flat (delimiters are atoms). -/
inductive RA
  /-- any character that is not a quote, `r`, `/` or a delimiter (top-level `,` `;` are excluded by `atomOK`) -/
  | ch (c : Char)
  /-- the letter `r` when it does not start a raw string (inside identifiers, …) -/
  | loneR
  /-- a `/` that does not start a comment (division) -/
  | slash
  /-- `"…"` (also the tail of `b"…"`, `c"…"`) -/
  | str (ps : List SPiece)
  /-- `r#…#"body"#…#` with `n` hashes (also the tail of `br…`, `cr…`) -/
  | raw (n : Nat) (body : List Char)
  /-- `'c'` -/
  | chr (c : Char)
  /-- `'\e…'`: an escaped character literal, `body` = what follows the escaped character -/
  | chrEsc (e : Char) (body : List Char)
  /-- `'c`: the start of a lifetime or label (the rest of the name are ordinary characters) -/
  | tick (c : Char)
  /-- `//body` up to and including the newline -/
  | lineComment (body : List Char)
  /-- `/*body*/` -/
  | blockComment (body : List Char)
  | open_ (c : Char)
  | close (c : Char)
  deriving Repr

def RA.render : RA → List Char
  | .ch c => [c]
  | .loneR => ['r']
  | .slash => ['/']
  | .str ps => '"' :: (renderPieces ps ++ ['"'])
  | .raw n body => 'r' :: (List.replicate n '#' ++ '"' :: (body ++ '"' :: List.replicate n '#'))
  | .chr c => ['\'', c, '\'']
  | .chrEsc e body => '\'' :: '\\' :: e :: (body ++ ['\''])
  | .tick c => ['\'', c]
  | .lineComment body => '/' :: '/' :: (body ++ ['\n'])
  | .blockComment body => '/' :: '*' :: (body ++ ['*', '/'])
  | .open_ c => [c]
  | .close c => [c]

def renderAll (as : List RA) : List Char := as.flatMap RA.render

def RA.first : RA → Char
  | .ch c => c
  | .loneR => 'r'
  | .slash => '/'
  | .str _ => '"'
  | .raw _ _ => 'r'
  | .chr _ => '\''
  | .chrEsc _ _ => '\''
  | .tick _ => '\''
  | .lineComment _ => '/'
  | .blockComment _ => '/'
  | .open_ c => c
  | .close c => c

/-- the character that follows: first character of the remaining atoms, or the terminator -/
def firstChar : List RA → Char → Char
  | [], t => t
  | a :: _, _ => a.first

theorem render_first (a : RA) : ∃ tl, a.render = a.first :: tl := by
  cases a <;> exact ⟨_, rfl⟩

theorem renderAll_first (as : List RA) (t : Char) (rest : List Char) :
    ∃ tl, renderAll as ++ t :: rest = firstChar as t :: tl := by
  cases as with
  | nil => exact ⟨rest, by simp [renderAll, firstChar]⟩
  | cons a as =>
    obtain ⟨tl, h⟩ := render_first a
    exact ⟨tl ++ (renderAll as ++ t :: rest), by simp [renderAll, firstChar, h]⟩

/-- which raw strings the scanner (as the source currently is) gets right -/
def rawOK (cfg : Cfg) (n : Nat) (body : List Char) : Prop :=
  if cfg.rawLegacy then
    match n with
    | 0 => ∃ ps : List SPiece, (∀ p ∈ ps, p.ok '"' = true) ∧ body = renderPieces ps
    | m + 1 => rawBodyOK m body = true
  else rawBodyOK n body = true

/-- side conditions of an atom at delimiter depth `b`, followed by the character `f` -/
def atomOK (cfg : Cfg) (b : Nat) (a : RA) (f : Char) : Prop :=
  match a with
  | .ch c => c ≠ '"' ∧ c ≠ '\'' ∧ c ≠ 'r' ∧ c ≠ '/' ∧ isOpenDelim c = false ∧ isCloseDelim c = false ∧
             (b = 0 → c ≠ ',' ∧ c ≠ ';')
  | .loneR => f ≠ '#' ∧ (cfg.rawLegacy = false → f ≠ '"')
  | .slash => f ≠ '/' ∧ f ≠ '*'
  | .str ps => ∀ p ∈ ps, p.ok '"' = true
  | .raw n body => rawOK cfg n body
  | .chr c => c ≠ '\\'
  | .chrEsc _ body => ∀ x ∈ body, x ≠ '\''
  | .tick c => c ≠ '\\' ∧ f ≠ '\''
  | .lineComment body => ∀ x ∈ body, x ≠ '\n'
  | .blockComment body => commentOK body
  | .open_ c => isOpenDelim c = true
  | .close c => isCloseDelim c = true ∧ 0 < b

def newBal (b : Nat) : RA → Nat
  | .open_ _ => b + 1
  | .close _ => b - 1
  | _ => b

def balAfter : Nat → List RA → Nat
  | b, [] => b
  | b, a :: as => balAfter (newBal b a) as

/-- well-formedness of a snippet at depth `b`, followed by the terminator `t` -/
def WF (cfg : Cfg) : Nat → List RA → Char → Prop
  | _, [], _ => True
  | b, a :: as, t => atomOK cfg b a (firstChar as t) ∧ WF cfg (newBal b a) as t

/-- loop iterations of `code` per atom -/
def iters (cfg : Cfg) : RA → Nat
  | .lineComment _ => 2
  | .raw _ _ => if cfg.rawLegacy then 2 else 1
  | _ => 1

def itersAll (cfg : Cfg) (as : List RA) : Nat := (as.map (iters cfg)).sum

/-- `n` iterations of the loop of `code` at delimiter depth `b` pass over `txt` in front of `tl`, and
    leave depth `b'` -/
def Passes (cfg : Cfg) (n b : Nat) (txt : List Char) (b' : Nat) (tl : List Char) : Prop :=
  ∀ idx0 g p, code cfg idx0 (g + n) b ⟨p, txt ++ tl⟩ = code cfg idx0 g b' ⟨p + utf8Len txt, tl⟩

theorem step_ch (cfg : Cfg) (b : Nat) (c : Char) {f : Char} (tl : List Char) (h : atomOK cfg b (.ch c) f) :
    Passes cfg 1 b [c] b tl := by
  intro idx0 g p
  obtain ⟨h1, h2, h3, h4, h5, h6, h7⟩ := h
  rw [List.singleton_append, code]
  by_cases hb : b = 0
  · obtain ⟨h8, h9⟩ := h7 hb
    simp [h1, h2, h3, h4, h5, h6, hb, h8, h9]
  · have : b > 0 := Nat.pos_of_ne_zero hb
    simp [h1, h2, h3, h4, h5, h6, this]

theorem step_loneR (cfg : Cfg) (b : Nat) (f : Char) (tl : List Char) (h : atomOK cfg b .loneR f) :
    Passes cfg 1 b ['r'] b (f :: tl) := by
  intro idx0 g p
  obtain ⟨h1, h2⟩ := h
  simp only [List.singleton_append, code, Char.reduceBEq, Bool.false_eq_true, ↓reduceIte, utf8Len_cons, utf8Len_nil,
    utf8Size_ascii, Char.reduceVal, UInt32.reduceLE]
  split
  · simp_all
  · by_cases hl : cfg.rawLegacy = true
    · simp [hl]
    · simp_all
  · rfl

theorem step_slash (cfg : Cfg) (b : Nat) (f : Char) (tl : List Char) (h : atomOK cfg b .slash f) :
    Passes cfg 1 b ['/'] b (f :: tl) := by
  intro idx0 g p
  obtain ⟨h1, h2⟩ := h
  simp only [List.singleton_append, code, Char.reduceBEq, Bool.false_eq_true, ↓reduceIte, utf8Len_cons, utf8Len_nil,
    utf8Size_ascii, Char.reduceVal, UInt32.reduceLE]
  split
  · simp_all
  · simp_all
  · rfl

theorem step_str (cfg : Cfg) (b : Nat) (ps : List SPiece) (tl : List Char) (h : ∀ q ∈ ps, q.ok '"' = true) :
    Passes cfg 1 b (RA.str ps).render b tl := by
  intro idx0 g p
  simp only [RA.render, List.cons_append, List.append_assoc, List.nil_append]
  simp only [code, stringLiteral_scan p ps h, Char.reduceBEq, ↓reduceIte, utf8Size_ascii,
    Char.reduceVal, UInt32.reduceLE]
  simp +arith [utf8Len_append]

theorem step_open (cfg : Cfg) (b : Nat) (c : Char) (tl : List Char) (h : isOpenDelim c = true) :
    Passes cfg 1 b [c] (b + 1) tl := by
  intro idx0 g p
  have : (c = '(' ∨ c = '[') ∨ c = '{' := by simpa [isOpenDelim] using h
  rcases this with (rfl | rfl) | rfl <;>
    simp only [List.singleton_append, code, isOpenDelim, Char.reduceBEq, Bool.false_eq_true, ↓reduceIte, Bool.or_false,
      Bool.or_true, Bool.or_self, utf8Len_cons, utf8Len_nil, Nat.add_zero]

theorem step_close (cfg : Cfg) (b : Nat) (c : Char) (tl : List Char) (h : isCloseDelim c = true) (hb : 0 < b) :
    Passes cfg 1 b [c] (b - 1) tl := by
  intro idx0 g p
  have : (c = '}' ∨ c = ']') ∨ c = ')' := by simpa [isCloseDelim] using h
  rcases this with (rfl | rfl) | rfl <;>
    simp only [List.singleton_append, code, isOpenDelim, isCloseDelim, Char.reduceBEq, Bool.false_eq_true, ↓reduceIte,
      Bool.or_false, Bool.or_true, Bool.or_self, gt_iff_lt, hb, utf8Len_cons, utf8Len_nil, Nat.add_zero]

/-- Something has to follow the closing quote (`f`, of which the side condition says nothing): at the end of the
    input `take_lifetime_or_character_literal` returns `None`, as it does where no literal starts. -/
theorem step_chr (cfg : Cfg) (b : Nat) (c f : Char) (tl : List Char) (h : c ≠ '\\') :
    Passes cfg 1 b (RA.chr c).render b (f :: tl) := by
  intro idx0 g p
  simp only [RA.render, List.cons_append, List.nil_append]
  simp only [code, Char.reduceBEq, Bool.false_eq_true, ↓reduceIte, utf8Size_ascii, Char.reduceVal, UInt32.reduceLE]
  simp +arith [takeLifetimeOrCharLit, h, St.bump]

theorem step_tick (cfg : Cfg) (b : Nat) (c f : Char) (tl : List Char) (h : c ≠ '\\') (hf : f ≠ '\'') :
    Passes cfg 1 b (RA.tick c).render b (f :: tl) := by
  intro idx0 g p
  simp only [RA.render, List.cons_append, List.nil_append]
  simp only [code, Char.reduceBEq, Bool.false_eq_true, ↓reduceIte, utf8Size_ascii, Char.reduceVal, UInt32.reduceLE]
  simp +arith [takeLifetimeOrCharLit, h, hf]

theorem step_chrEsc (cfg : Cfg) (b : Nat) (e f : Char) (body tl : List Char) (h : ∀ x ∈ body, x ≠ '\'') :
    Passes cfg 1 b (RA.chrEsc e body).render b (f :: tl) := by
  intro idx0 g p
  have ht := takeUntil_stop (· == '\'') body '\'' (f :: tl) (p + 1 + 1 + e.utf8Size)
    (by intro x hx; simpa using h x hx) (by decide)
  simp only [RA.render, List.cons_append, List.append_assoc, List.nil_append]
  simp only [code, Char.reduceBEq, Bool.false_eq_true, ↓reduceIte, utf8Size_ascii, Char.reduceVal, UInt32.reduceLE]
  simp only [takeLifetimeOrCharLit, St.bump, ht, Char.reduceBEq, ↓reduceIte, utf8Size_ascii,
    Char.reduceVal, UInt32.reduceLE]
  simp +arith [utf8Len_append]

/-- the newline that ends a `//` comment is passed over by a second iteration -/
theorem step_lineComment (cfg : Cfg) (b : Nat) (body tl : List Char) (h : ∀ x ∈ body, x ≠ '\n') :
    Passes cfg 2 b (RA.lineComment body).render b tl := by
  intro idx0 g p
  have hch : atomOK cfg b (.ch '\n') '\n' := by simp [atomOK, isOpenDelim, isCloseDelim]
  simp only [RA.render, List.cons_append, List.append_assoc, List.nil_append]
  rw [show g + 2 = g + 1 + 1 from rfl, code]
  simp only [lineComment_scan (p + 1) body tl h, Char.reduceBEq, Bool.false_eq_true, ↓reduceIte, utf8Size_ascii,
    Char.reduceVal, UInt32.reduceLE]
  refine (step_ch cfg b '\n' tl hch idx0 g _).trans ?_
  simp +arith [utf8Len_append]

theorem step_blockComment (cfg : Cfg) (b : Nat) (body tl : List Char) (h : commentOK body) :
    Passes cfg 1 b (RA.blockComment body).render b tl := by
  intro idx0 g p
  simp only [RA.render, List.cons_append, List.append_assoc, List.nil_append]
  simp only [code, blockComment_scan p (p + 1 + 1) body tl h, Char.reduceBEq, Bool.false_eq_true, ↓reduceIte,
    utf8Size_ascii, Char.reduceVal, UInt32.reduceLE]
  simp +arith [utf8Len_append]

theorem step_raw_fixed (cfg : Cfg) (hl : cfg.rawLegacy = false) (b n : Nat) (body tl : List Char)
    (hok : rawBodyOK n body = true) :
    Passes cfg 1 b (RA.raw n body).render b tl := by
  intro idx0 g p
  have hs := regexLiteral_scan (fun i s => code cfg i g 0 s) p ['r'] (p + 1) n n (by omega) body hok tl
  obtain ⟨d, tl', hd, hdq⟩ := hashes_quote_head n (body ++ '"' :: (List.replicate n '#' ++ tl))
  simp only [RA.render, List.cons_append, List.append_assoc] at hs ⊢
  rw [hd] at hs ⊢
  -- `r#` and `r"` both enter `regex_literal` at the `r`
  have hc : code cfg idx0 (g + 1) b ⟨p, 'r' :: d :: tl'⟩ =
      code cfg idx0 g b ⟨p + 1 + n + 1 + utf8Len body + 1 + n, tl⟩ := by
    rcases hdq with rfl | rfl <;>
      simp only [code, hl, hs, Char.reduceBEq, Bool.false_eq_true, ↓reduceIte, utf8Size_ascii, Char.reduceVal,
        UInt32.reduceLE]
  rw [hc]
  simp +arith [utf8Len_append, utf8Len_replicate_hash]

/-- with `rawLegacy` the scanner enters `regex_literal` at the first `#`, so it looks for one hash less: the scan
    ends in front of the last `#`, which a second iteration passes over -/
theorem step_raw_legacy_succ (cfg : Cfg) (hl : cfg.rawLegacy = true) (b m : Nat) (body tl : List Char)
    (hok : rawBodyOK m body = true) :
    Passes cfg 2 b (RA.raw (m + 1) body).render b tl := by
  intro idx0 g p
  have hs := regexLiteral_scan (fun i s => code cfg i (g + 1) 0 s) (p + 1) [] (p + 1) (m + 1) m (by omega) body hok
    ('#' :: tl)
  have hre : List.replicate (m + 1) '#' ++ tl = List.replicate m '#' ++ '#' :: tl := by
    rw [List.replicate_succ']; simp
  have hch : atomOK cfg b (.ch '#') '#' := by simp [atomOK, isOpenDelim, isCloseDelim]
  simp only [RA.render, List.cons_append, List.append_assoc] at hs ⊢
  rw [show g + 2 = g + 1 + 1 from rfl, code, hre]
  simp only [Char.reduceBEq, Bool.false_eq_true, ↓reduceIte, utf8Size_ascii, Char.reduceVal, UInt32.reduceLE]
  simp only [List.replicate_succ, List.cons_append] at hs ⊢
  simp only [hl, ↓reduceIte, hs]
  refine (step_ch cfg b '#' tl hch idx0 g _).trans ?_
  simp +arith [utf8Len_append, utf8Len_replicate_hash]

/-- with `rawLegacy` the scanner reads `r"…"` as the identifier character `r` and an ordinary string -/
theorem step_raw_legacy_zero (cfg : Cfg) (hl : cfg.rawLegacy = true) (b : Nat) (ps : List SPiece)
    (tl : List Char) (hok : ∀ q ∈ ps, q.ok '"' = true) :
    Passes cfg 2 b (RA.raw 0 (renderPieces ps)).render b tl := by
  intro idx0 g p
  have hs := step_str cfg b ps tl hok idx0 g (p + 1)
  simp only [RA.render, List.replicate, List.cons_append, List.append_assoc, List.nil_append] at hs ⊢
  rw [show g + 2 = g + 1 + 1 from rfl, code]
  simp only [hl, hs, Char.reduceBEq, Bool.false_eq_true, ↓reduceIte, utf8Size_ascii, Char.reduceVal, UInt32.reduceLE]
  simp +arith [utf8Len_append]

theorem step (cfg : Cfg) (b : Nat) (a : RA) (f : Char) (tl : List Char) (h : atomOK cfg b a f) :
    Passes cfg (iters cfg a) b a.render (newBal b a) (f :: tl) := by
  cases a with
  | ch c => exact step_ch cfg b c (f :: tl) h
  | loneR => exact step_loneR cfg b f tl h
  | slash => exact step_slash cfg b f tl h
  | str ps => exact step_str cfg b ps (f :: tl) h
  | raw n body =>
    simp only [atomOK, rawOK] at h
    by_cases hl : cfg.rawLegacy = true
    · simp only [hl, if_true] at h
      simp only [iters, hl, if_true, newBal]
      cases n with
      | zero =>
        obtain ⟨ps, hps, rfl⟩ := h
        exact step_raw_legacy_zero cfg hl b ps (f :: tl) hps
      | succ m => exact step_raw_legacy_succ cfg hl b m body (f :: tl) h
    · simp only [hl] at h
      simp only [iters, hl, newBal]
      exact step_raw_fixed cfg (by simpa using hl) b n body (f :: tl) h
  | chr c => exact step_chr cfg b c f tl h
  | chrEsc e body => exact step_chrEsc cfg b e f body tl h
  | tick c => exact step_tick cfg b c f tl h.1 h.2
  | lineComment body => exact step_lineComment cfg b body (f :: tl) h
  | blockComment body => exact step_blockComment cfg b body (f :: tl) h
  | open_ c => exact step_open cfg b c (f :: tl) h
  | close c => exact step_close cfg b c (f :: tl) h.1 h.2

theorem code_atoms (cfg : Cfg) : ∀ (as : List RA) (b : Nat) (t : Char) (rest : List Char), WF cfg b as t →
    Passes cfg (itersAll cfg as) b (renderAll as) (balAfter b as) (t :: rest) := by
  intro as
  induction as with
  | nil => intro b t rest _ idx0 g p; rfl
  | cons a as ih =>
    intro b t rest hwf idx0 g p
    obtain ⟨ha, hwf'⟩ := hwf
    obtain ⟨tl, htl⟩ := renderAll_first as t rest
    show code cfg idx0 (g + (iters cfg a + itersAll cfg as)) b ⟨p, (a.render ++ renderAll as) ++ t :: rest⟩ =
      code cfg idx0 g (balAfter (newBal b a) as) ⟨p + utf8Len (a.render ++ renderAll as), t :: rest⟩
    rw [Nat.add_left_comm, Nat.add_comm (iters cfg a), List.append_assoc, htl, step cfg b a _ tl ha, ← htl,
      ih (newBal b a) t rest hwf', utf8Len_append, Nat.add_assoc]

theorem itersAll_le (cfg : Cfg) (as : List RA) : itersAll cfg as ≤ (renderAll as).length := by
  refine sum_le_length_flatMap RA.render (iters cfg) (fun a => ?_) as
  cases a with
  | lineComment body => exact Nat.succ_le_succ (Nat.succ_pos _)
  | raw n body =>
    -- one or two iterations: the text has at least its `r` and the opening quote
    simp only [iters, RA.render, List.length_cons, List.length_append]
    split <;> omega
  | _ => exact Nat.succ_pos _

def isTerminator (t : Char) : Bool := t == ',' || t == ';' || isCloseDelim t

theorem code_terminator (cfg : Cfg) (idx0 g p : Nat) (t : Char) (rest : List Char) (ht : isTerminator t = true) :
    code cfg idx0 (g + 1) 0 ⟨p, t :: rest⟩ = .ok ⟨p, t :: rest⟩ := by
  have : ((t = ',' ∨ t = ';') ∨ t = '}' ∨ t = ']') ∨ t = ')' := by
    simpa [isTerminator, isCloseDelim, or_assoc] using ht
  rcases this with ((rfl | rfl) | rfl | rfl) | rfl <;>
    simp only [code, isOpenDelim, isCloseDelim, Char.reduceBEq, Bool.false_eq_true, ↓reduceIte, Bool.or_false,
      Bool.or_true, Bool.or_self, gt_iff_lt, Nat.lt_irrefl]

/-- a well-formed balanced snippet followed by the terminator `t` -/
structure Snippet (cfg : Cfg) (as : List RA) (t : Char) : Prop where
  wf : WF cfg 0 as t
  bal : balAfter 0 as = 0
  term : isTerminator t = true

theorem codeTop_scan (cfg : Cfg) (idx0 p : Nat) (as : List RA) (t : Char) (rest : List Char) (hs : Snippet cfg as t) :
    codeTop cfg idx0 ⟨p, renderAll as ++ t :: rest⟩ = .ok ⟨p + utf8Len (renderAll as), t :: rest⟩ := by
  rw [codeTop, fuel_split _ _ _ (itersAll_le cfg as), code_atoms cfg as 0 t rest hs.wf, hs.bal,
    code_terminator cfg idx0 _ _ t rest hs.term]

end LalrpopModel.Tok
