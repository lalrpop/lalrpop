import LalrpopModel.Lemmas.LRPrefixViable
import LalrpopModel.Lemmas.LRPrefixDet
import LalrpopModel.Lemmas.LRGenericExtra
import LalrpopModel.Lemmas.LRGenericErr
/-!
Valid-prefix properties (C04/C05): what soundness and the viable-prefix invariant give.

The state stack of every configuration of a run on validated tables, the one in which a syntax
error is reported included, is a path of the automaton over the roots of the trees on the symbol
stack, so with V5 it holds a prefix of a sentence. On such a stack `accepts` is sound (V5, V6): the
simulated reductions go through table entries whose complete items are in the cores, so they are
reductions of the sentential form, and the final shift leads to a state of the automaton; hence
every terminal that `expected` lists continues the consumed input.
-/
namespace LalrpopModel.LR
open LalrpopModel.LR.Generic LalrpopModel.LR.Prefix

/-- `stackYield` in the form in which `Props/LRGenericThms.lean` states what is on the stack -/
theorem stackYield_eq_flatten (syms : List SymTriple) :
    stackYield syms = (syms.reverse.map (fun s => s.2.1.yield)).flatten := by
  induction syms with
  | nil => rfl
  | cons y ys ih => simp [stackYield, ih]

/-- the `expected` list carried by the two syntax errors -/
def errExpected : PErr → Option (List Term)
  | .unrecognizedToken _ ex => some ex
  | .unrecognizedEof _ ex => some ex
  | _ => none

theorem errExpected_mkErr (c : Cfg) (la : Option (Tok × Term)) (ex : List Term) :
    errExpected (mkErr c la ex) = some ex := by
  cases la <;> rfl

/-- what `parse` / `parse_eof` return when `__reduce` answers is not a syntax error -/
theorem finOutcome_no_expected {ph : Phase} {r : Outcome} {e : PErr} {ex : List Term}
    (hr : (∃ tag, r = .panic tag) ∨ (∃ e, r = .err (.user e)) ∨ ∃ v, r = .ok v)
    (h : finOutcome ph r = .err e) (he : errExpected e = some ex) : False := by
  rcases hr with ⟨tag, rfl⟩ | ⟨e', rfl⟩ | ⟨v, rfl⟩
  · cases ph <;> cases h
  · rw [finOutcome_user] at h
    cases h
    cases he
  · cases ph <;> cases h
    cases he

section
variable {G : Grammar} {T : Tables} {A : Automaton} {failAt : Option Nat} {startLoc : Int}

theorem reach_stack (Sd : Sound G T A) (hrec : T.usesRecovery = false) {input : List Item}
    (hin : InRange T input) {af n : Nat} {c : Cfg} {ph : Phase}
    (h : run T af failAt startLoc n (init startLoc input) .pull = (c, ph)) (hnd : phDone ph = false) :
    (∃ Xs, Path A c.states Xs ∧ TreesOK G none c.symbols Xs) ∧
      (stackYield c.symbols ++ phaseToks ph).map Item.tok ++ c.input = input := by
  obtain ⟨⟨Xs, hp, ht⟩, hy⟩ := inv_stack (Inv.of_run Sd hin h) hnd
  rw [errT_none hrec] at ht
  exact ⟨⟨Xs, hp, ht⟩, hy hrec⟩

/-- a step of a parser without recovery into one of the two syntax errors leaves the stacks
    alone, and the error carries `expected` of the state stack -/
theorem step_err_stack {af : Nat} {c1 c : Cfg} {ph1 : Phase} {e : PErr} {ex : List Term}
    (hs : Step T af failAt startLoc c1 ph1 c (.done (.err e))) (hnd : phDone ph1 = false)
    (hpl : phErr ph1 = none) (he : errExpected e = some ex) :
    c.states = c1.states ∧ c.symbols = c1.symbols ∧ expected T af c1.states = .ok ex := by
  cases hs.done_cases hnd with
  | panic tag hr => cases hr
  | next hn hph =>
    cases hn with
    | err e' rest h => cases he
    | unrec t rest h hk ex' hex =>
      cases he
      exact ⟨rfl, rfl, hex⟩
  | red p ls r0 hctx hr heq => exact (finOutcome_no_expected hr.fin_outcome heq.symm he).elim
  | noRec la fe ex' hctx hex hrec hc hr =>
    cases hr
    rw [errExpected_mkErr] at he
    cases he
    exact ⟨hc ▸ rfl, hc ▸ rfl, hex⟩
  | giveUp e' d sl fe hph hc hr =>
    subst hph
    cases hpl

/-- the stack when a syntax error is reported: still a path of the automaton over the roots of
    well-formed trees, and the error's `expected` list was computed from this state stack -/
theorem final_stack (Sd : Sound G T A) (hrec : T.usesRecovery = false) {input : List Item}
    (hin : InRange T input) {c : Cfg} {e : PErr} {ex : List Term}
    (h : Returns T failAt startLoc input c (.err e)) (he : errExpected e = some ex) :
    ∃ Xs, Path A c.states Xs ∧ TreesOK G none c.symbols Xs ∧ ∃ af, expected T af c.states = .ok ex := by
  obtain ⟨n, af, h⟩ := h
  obtain ⟨k, c1, ph1, hk, hrun, hnd, hstep⟩ := last_step T af failAt startLoc h rfl
  obtain ⟨⟨Xs, hp, ht⟩, _⟩ := reach_stack Sd hrec hin hrun hnd
  obtain ⟨h1, h2, h3⟩ := step_err_stack (step_spec_of hstep) hnd
    (phErr_none_of_run hrec hrun) he
  exact ⟨Xs, h1 ▸ hp, h2 ▸ ht, af, h1 ▸ h3⟩

/-- if the syntax error is raised in the step right after the pull of the offending item (or by
    that pull itself) — no reduction was performed under the offending lookahead — the state stack
    at the error is the one the parser had when it pulled -/
theorem states_of_error_after_pull (hrec : T.usesRecovery = false) {af : Nat}
    {input : List Item} {n₀ : Nat} {c₀ c : Cfg} {e : PErr} {ex : List Term}
    (h₀ : run T af failAt startLoc n₀ (init startLoc input) .pull = (c₀, .pull))
    (h₂ : run T af failAt startLoc (n₀ + 2) (init startLoc input) .pull = (c, .done (.err e)))
    (he : errExpected e = some ex) : c.states = c₀.states := by
  rcases h₁ : run T af failAt startLoc (n₀ + 1) (init startLoc input) .pull with ⟨c₁, ph₁⟩
  have hs₁ : step T af failAt startLoc c₀ .pull = (c₁, ph₁) := by
    rw [← h₁, Generic.run_succ', h₀]
  have hs₂ : step T af failAt startLoc c₁ ph₁ = (c, .done (.err e)) := by
    rw [← h₂, Generic.run_succ', h₁]
  cases ph₁ with
  | done r =>
    -- the pull itself reported the error
    cases hs₂
    exact (step_pull_frame hs₁).2
  | _ => rw [(step_err_stack (step_spec_of hs₂) rfl (phErr_none_of_run hrec h₁) he).1, (step_pull_frame hs₁).2]

/-- with V5, a stack that is a path of the automaton over well-formed trees holds a prefix of a
    sentence -/
theorem stack_kindsPrefix {R : NT → Prop} {S : NT} (Sd : Sound G T A) (J : Just G A) (P : ProdOK G A R)
    (hS : G.startSym = some S) {states : List Nat} {symbols : List SymTriple} {Xs : List Sym}
    (hp : Path A states Xs) (ht : TreesOK G none symbols Xs) : KindsPrefix G S (stackYield symbols) :=
  viable_stack (path_viable Sd J P hS hp) ht

end

theorem held_eq_take {held : List Tok} {toks : List Tok} {k : Nat}
    (h : held.map Item.tok ++ (toks.map Item.tok).drop k = toks.map Item.tok) : held = toks.take k := by
  rw [← List.map_drop, ← List.map_append] at h
  have := (List.map_inj_right (f := Item.tok) (fun a b hab => by injection hab)).mp h
  conv at this => rhs; rw [← List.take_append_drop k toks]
  exact List.append_cancel_right this

theorem ItemAt.syms {G : Grammar} {A : Automaton} {p : Nat} {pr : Production}
    (hp : G.prods[p]? = some pr) (d : Nat) {st : List Nat} {Xs : List Sym} (h : ItemAt G A p d st Xs) :
    (Xs.take d).reverse = pr.rhs.take d := by
  induction d generalizing st Xs with
  | zero => rfl
  | succ d ih =>
    cases st with
    | nil => exact h.elim
    | cons s ss =>
      cases Xs with
      | nil => exact h.elim
      | cons X Xs =>
        rw [List.take_succ_cons, List.reverse_cons, ih h.2, List.take_add_one, symAt_some hp h.1]
        rfl

section
variable {G : Grammar} {T : Tables} {A : Automaton} {R : NT → Prop} {S : NT}

/-- **Soundness of `accepts`.** -/
theorem accepts_viable (Sd : Sound G T A) (J : Just G A) (P : ProdOK G A R) (hS : G.startSym = some S)
    (h6 : ∀ x ∈ T.action, x ≠ -((G.startProd : Int) + 1)) (a : Nat) (ha : a < T.nTerm) :
    ∀ (af : Nat) (states : List Nat) (Xs : List Sym), Path A states Xs →
      accepts T af states (some a) = .ok true → Viable G S (Xs.reverse ++ [Sym.t a]) := by
  intro af
  induction af with
  | zero =>
    intro states Xs hp h
    cases h
  | succ af ih =>
    intro states Xs hp h
    cases states with
    | nil => exact absurd rfl hp.ne_nil
    | cons top rest =>
      obtain ⟨act, hact, hshift, hred⟩ := Sd.action top a (hp.top_lt Sd) ha
      rcases Int.lt_trichotomy act 0 with hneg | rfl | hpos
      · -- a reduction, not of the start production (V6): `accepts` goes on below the handle
        obtain ⟨pr, hpr, hit⟩ := hred hneg
        generalize hp' : (-(act + 1)).toNat = p at hpr hit
        have hra : asReduce act = some p := hp' ▸ if_pos hneg
        have hne : p ≠ G.startProd := by
          rintro rfl
          exact h6 act (List.mem_of_getElem? hact) (asReduce_eq_some hra)
        obtain ⟨below, more, hd, hpath⟩ := hp.reduce_goto Sd hpr hit hne
        have hst : T.isStart[p]? = some false := by rw [Sd.isStart_eq p pr hpr, beq_false_of_ne hne]
        rw [accepts_reduce T (o := some a) af hact hra (prodLen_get Sd hpr) (Sd.prodLhs_eq p pr hpr hne) hst hd] at h
        have hv := ih _ _ hpath h
        -- the handle on the stack is the right-hand side of `p`
        have hsyms := ItemAt.syms hpr _ (hp.itemAt Sd _ _ rfl p _ hit)
        rw [List.take_length] at hsyms
        rw [← List.take_append_drop pr.rhs.length Xs, List.reverse_append, hsyms]
        rw [List.reverse_cons, List.append_assoc] at hv
        exact hv.unreduce hpr
      · rw [accepts_zero T (o := some a) rest af hact] at h
        cases h
      · -- a shift: the successor is a state of the automaton
        have := path_viable Sd J P hS (Path.push hp (X := Sym.t a) (hshift hpos))
        rwa [List.reverse_cons] at this

/-- **C05 soundness on the stack**: every terminal of `expected T af states` continues the tokens
    under the stack -/
theorem expected_sound_stack (Sd : Sound G T A) (J : Just G A) (P : ProdOK G A R) (hS : G.startSym = some S)
    (h6 : ∀ x ∈ T.action, x ≠ -((G.startProd : Int) + 1))
    {states : List Nat} {symbols : List SymTriple} {Xs : List Sym}
    (hp : Path A states Xs) (ht : TreesOK G none symbols Xs) {af : Nat} {ex : List Term}
    (hex : expected T af states = .ok ex) (a : Nat) (ha : a ∈ ex) :
    KindsPrefix G S (stackYield symbols ++ [mkTok a]) := by
  obtain ⟨_, hlt, hacc⟩ := (expectedLoop_mem hex a).mp ha
  have hnt : a < T.nTerm := Nat.lt_of_lt_of_le (Nat.zero_add T.nRepr ▸ hlt) (nRepr_le T)
  have hv := accepts_viable Sd J P hS h6 a hnt af states Xs hp hacc
  rw [← List.reverse_cons] at hv
  -- the stack with a token of kind `a` shifted
  exact viable_stack hv (.cons (y := (0, .leaf (mkTok a), 0)) (.leaf _ a rfl) rfl ht)

end

end LalrpopModel.LR
