import LalrpopModel.Lemmas.LRTermRec
import LalrpopModel.Lemmas.LRSoundStep
/-!
C08 termination: the stacks that occur. `AdjInv` (the state stack is `Adj`, the token kinds
still in the stream and the lookahead held by the phase are terminal indices) holds at every
configuration of a run from `init` (`adjInv_of_run`), for arbitrary fuel, with error recovery on or
off; hence `accepts` answers on every stack that occurs (`accepts_terminates_reachable`).
-/
namespace LalrpopModel.LR.Term
open LalrpopModel.LR LalrpopModel.LR.Generic

variable {T : Tables} {F af : Nat} {failAt : Option Nat} {startLoc : Int}

def AdjInv (T : Tables) (c : Cfg) : Phase → Prop
  | .done _ => True
  | .pull => Adj T c.states ∧ InRange T c.input
  | .eof => Adj T c.states ∧ InRange T c.input
  | .act _ idx => Adj T c.states ∧ InRange T c.input ∧ idx < T.nTerm
  | .recReduce la _ _ =>
    Adj T c.states ∧ InRange T c.input ∧ T.usesRecovery = true ∧ LAok T (la.map (·.2))
  | .recFind la _ _ _ _ =>
    Adj T c.states ∧ InRange T c.input ∧ T.usesRecovery = true ∧ LAok T (la.map (·.2))

theorem AdjInv.adj {c : Cfg} {ph : Phase} (h : AdjInv T c ph) (hnd : phDone ph = false) :
    Adj T c.states := by
  cases ph with
  | done r => cases hnd
  | _ => exact h.1

theorem step_pull {c c' : Cfg} {nt : NextToken} (h : nextToken T af c = (c', nt)) :
    step T af failAt startLoc c .pull = (c', pullK nt) := by
  rw [step_pull_eq, h]

theorem step_adjInv (hT : TermOK T F) (c : Cfg) (ph : Phase) (h : AdjInv T c ph) :
    AdjInv T (step T af failAt startLoc c ph).1 (step T af failAt startLoc c ph).2 := by
  -- what the entry of `error_recovery` leads to
  have henter : ∀ la fe, Adj T c.states → InRange T c.input → LAok T (la.map (·.2)) →
      AdjInv T (enterRecovery T af c la fe).1 (enterRecovery T af c la fe).2 := by
    intro la fe hadj hin hla
    rcases enterRecovery_cases hT af c hadj la fe with ⟨r, he, _⟩ | ⟨hrec, pe, he⟩
    · rw [he]; trivial
    · rw [he]; exact ⟨hadj, hin, hrec, hla⟩
  cases ph with
  | done r => trivial
  | pull =>
    obtain ⟨hadj, hin⟩ := h
    rcases nextToken_cases hT af c hadj with ⟨_, hnt⟩ | ⟨t, i, rest, hinp, hk, hnt⟩ |
      ⟨c', r, hnt, _⟩
    · rw [step_pull hnt]; exact ⟨hadj, hin⟩
    · rw [step_pull hnt]
      rw [hinp] at hin
      exact ⟨hadj, hin.tail, hin.head hk⟩
    · rw [step_pull hnt]; trivial
  | act tok idx =>
    obtain ⟨hadj, hin, hidx⟩ := h
    rcases loop_step (.act tok idx) af failAt startLoc c with
      ⟨c', r, hs, _⟩ | ⟨c', hs, hl, hci⟩ | ⟨_, top, rest, a, hst, ha, hp⟩
    · rw [hs]; trivial
    · rw [hs]; exact ⟨hadj.locStep hT hl, hci ▸ hin, hidx⟩
    · rcases act_exit af failAt startLoc tok hst ha hp with
        ⟨t, hsh, hs⟩ | ⟨hs, _⟩
      · rw [hs]
        exact ⟨hadj.push_shift hst hidx ha hsh, hin⟩
      · rw [hs]
        exact henter _ _ hadj hin hidx
  | eof =>
    obtain ⟨hadj, hin⟩ := h
    rcases loop_step .eof af failAt startLoc c with
      ⟨c', r, hs, _⟩ | ⟨c', hs, hl, hci⟩ | ⟨_, top, rest, a, hst, ha, hp⟩
    · rw [hs]; trivial
    · rw [hs]; exact ⟨hadj.locStep hT hl, hci ▸ hin⟩
    · rw [(eof_exit af failAt startLoc hst ha hp).1]
      exact henter _ _ hadj hin trivial
  | recReduce la e fe =>
    obtain ⟨hadj, hin, hrec, hla⟩ := h
    rcases loop_step (.recReduce la e fe) af failAt startLoc c with
      ⟨c', r, hs, _⟩ | ⟨c', hs, hl, hci⟩ | ⟨_, top, rest, a, hst, ha, hp⟩
    · rw [hs]; trivial
    · rw [hs]; exact ⟨hadj.locStep hT hl, hci ▸ hin, hrec, hla⟩
    · rw [rec_exit la e fe hst ha hp]; exact ⟨hadj, hin, hrec, hla⟩
  | recFind la e dropped sl fe =>
    obtain ⟨hadj, hin, hrec, hla⟩ := h
    have hf := step_find hT hrec af failAt startLoc c hadj la hla e dropped sl fe
    generalize step T af failAt startLoc c (.recFind la e dropped sl fe) = x at hf ⊢
    cases hf with
    | done _ => trivial
    | push hph hadj' _ hci _ =>
      subst hph
      cases la with
      | none => exact ⟨hadj', hci ▸ hin⟩
      | some ti =>
        obtain ⟨t, i⟩ := ti
        cases fe with
        | true => trivial
        | false => exact ⟨hadj', hci ▸ hin, hla⟩
    | drop hinp hk =>
      rw [hinp] at hin
      exact ⟨hadj, hin.tail, hrec, hin.head hk⟩
    | dropEof _ => exact ⟨hadj, hin, hrec, trivial⟩

theorem adjInv_of_run (hT : TermOK T F) {input : List Item} (hin : InRange T input) {n : Nat} {c : Cfg}
    {ph : Phase} (hrun : run T af failAt startLoc n (init startLoc input) .pull = (c, ph)) :
    AdjInv T c ph := by
  have := run_inv T af failAt startLoc (fun c ph => AdjInv T c ph) (step_adjInv hT)
    (c0 := init startLoc input) (ph0 := .pull) ⟨.base, hin⟩ n
  rw [hrun] at this
  exact this

theorem accepts_terminates_reachable (hT : TermOK T F) {input : List Item} (hin : InRange T input)
    {n : Nat} {c : Cfg} {ph : Phase}
    (hrun : run T af failAt startLoc n (init startLoc input) .pull = (c, ph)) (hnd : phDone ph = false)
    {la : LA} (hla : LAok T la) {af' : Nat} (haf : accFuel F c.states.length ≤ af') :
    accepts T af' c.states la ≠ .error .outOfFuel :=
  accepts_terminates hT hla ((adjInv_of_run hT hin hrun).adj hnd) haf

end LalrpopModel.LR.Term
